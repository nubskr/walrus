import WalrusVerif.Lemmas.LogStoreLemmas
/-!
# C21 — Raft log store and peer address book across restarts

*Statement.* For any history of log-store operations (append, truncate, purge, vote save, committed save) and
peer-address records interleaved with any number of restarts, each reopened store reports exactly the
acknowledged vote, committed id, purge point, log entries and peer addresses.

The property is **false of the code** (finding `readAllConsumes`): `WalLogStore::new` and the peer-map load read the
logs back with `WriteAheadLog::read_all`, which *consumes* what it returns and persists its cursor, so the next
process that opens the same store is handed only what was appended after the previous open (`C21_counterexample`).
Nothing acknowledged is ever missing from the logs (`C21_logs_hold_ack`): it is the reader that loses it, and over a
reader that moves no cursor the property holds (`C21_nonconsuming_holds`); with `read_all` it holds of the histories in
which no `open` finds a consumed log (`C21_partial`).  The `C21_failed_*` theorems are about one operation during which a
record write to the Raft log fails (`stepFault`), and the reopen right after it.

Not covered: a history that goes on after a failed operation (the log then holds records of an operation that was
never acknowledged: `Inv` need not hold of that node); a failed *peer-record* write.  `stepFault` has none - `peer` goes
through `step` there - and only the driver models it (`ls fault peer` in lean/Main.lean: the map of the running process
is updated, the record is not written, the answer is an error).  The same `peer` request repeated is then answered ok
and writes nothing, so the address is acknowledged and not in the peer log: `Inv.livePeers`, and with it the peer half
of `C21_logs_hold_ack`, does not extend to such histories.
-/
namespace WalrusVerif.LogStore
open WalrusVerif

/-- **C21, what always holds.** After any history from a fresh store — any operations, any number of clean or
killed restarts, no write failure (`run`) — replaying the whole log gives exactly the acknowledged log state, and the
whole peer log gives the acknowledged address of every peer. -/
theorem C21_logs_hold_ack (ops : List Op) :
    replay {} (run {} {} ops).1.wal.recs = (run {} {} ops).2.mem ∧
    ∀ k, (peersOf AMap.empty (run {} {} ops).1.pwal.recs).get? k = (run {} {} ops).2.peers.get? k :=
  let h := runG_inv _ _ readAll_ok readAll_ok ops {} {} inv_init
  ⟨h.log, h.peers⟩

/-- what `open` hands the new process: the replay of the records no earlier `read_all` consumed -/
theorem C21_reopen_reports_suffix (n : Node) :
    (step n .open_).1.live = some
      { mem := replay {} (n.wal.recs.drop n.wal.consumed),
        peers := peersOf AMap.empty (n.pwal.recs.drop n.pwal.consumed) } := rfl

/-- after an `open`, both cursors stand at the end: the next `open` sees only what is appended from here on -/
theorem open_consumes (n : Node) :
    (step n .open_).1.wal.consumed = n.wal.recs.length ∧ (step n .open_).1.pwal.consumed = n.pwal.recs.length :=
  ⟨rfl, rfl⟩

/-- **What the next process sees, exactly.**  Open a store (any state of the logs), run any operations (no further
`open`), restart, open again: the new process is handed the replay of the records appended *since the previous
open* and nothing older - whatever had been acknowledged before that open is gone from its view, although it is
still in the log (`C21_logs_hold_ack`). -/
theorem C21_next_open_reports_only_new (n : Node) (a : Ack) (ops : List Op) (hno : ∀ op ∈ ops, op ≠ .open_) :
    let n2 := (run (step n .open_).1 a ops).1
    (step n2 .open_).1.live = some
      { mem := replay {} (n2.wal.recs.drop n.wal.recs.length),
        peers := peersOf AMap.empty (n2.pwal.recs.drop n.pwal.recs.length) } := by
  intro n2
  have hc := consumed_run_no_open ops (step n .open_).1 a hno
  have ho := open_consumes n
  rw [C21_reopen_reports_suffix]
  show some _ = some _
  rw [show n2.wal.consumed = n.wal.recs.length from hc.1.trans ho.1,
      show n2.pwal.consumed = n.pwal.recs.length from hc.2.trans ho.2]

/-- **C21 (partial).** For every history in which no `open` finds a log that an earlier `read_all` already
consumed, the open store reports exactly the acknowledged state: vote, committed id, purge point, log entries
(`lv.mem`) and the address of every peer. -/
theorem C21_partial (ops : List Op) (hq : quirkFree {} ops = true) :
    ∀ lv, (run {} {} ops).1.live = some lv →
      lv.mem = (run {} {} ops).2.mem ∧ ∀ k, lv.peers.get? k = (run {} {} ops).2.peers.get? k :=
  run_liveOk ops {} {} inv_init (fun _ h => by simp at h) hq

/-! ### the hypothesis of `C21_partial` in plain terms: at most one `open` finds data -/

def hasData (n : Node) : Bool := !n.wal.recs.isEmpty || !n.pwal.recs.isEmpty

/-- how many `open`s of the history find a non-empty log -/
def opensOnData (n : Node) : List Op → Nat
  | [] => 0
  | .open_ :: r => (if hasData n then 1 else 0) + opensOnData (step n .open_).1 r
  | op :: r => opensOnData (step n op).1 r

/-- a cursor that has moved stands in a non-empty log -/
theorem hasData_of_consumed {n : Node} (hc : CursorsOk n) (h : quirkReadAllConsumes n .open_ = true) :
    hasData n = true := by
  obtain ⟨h1, h2⟩ := hc
  simp only [quirkReadAllConsumes, Bool.or_eq_true, decide_eq_true_eq] at h
  simp only [hasData, Bool.or_eq_true, Bool.not_eq_true', List.isEmpty_eq_false_iff, ← List.length_pos_iff]
  omega

/-- `open` leaves both cursors at the ends of the logs: one has moved iff there was data -/
theorem consumed_after_open (n : Node) : quirkReadAllConsumes (step n .open_).1 .open_ = hasData n := by
  rcases n with ⟨_, ⟨_ | _, _⟩, ⟨_ | _, _⟩⟩ <;> rfl

/-- The opens on data still to come, plus one if a cursor has moved already, bound the history: an `open` that finds
a moved cursor finds data, and would be the second to be counted. -/
theorem quirkFree_of_opensOnData (ops : List Op) (n : Node) (hc : CursorsOk n)
    (h : opensOnData n ops + (if quirkReadAllConsumes n .open_ then 1 else 0) ≤ 1) : quirkFree n ops = true := by
  induction ops generalizing n with
  | nil => rfl
  | cons op r ih =>
    by_cases ho : op = .open_
    · subst ho
      rw [opensOnData] at h
      have hq : quirkReadAllConsumes n .open_ = false := by
        cases hq : quirkReadAllConsumes n .open_ with
        | false => rfl
        | true => rw [hq, hasData_of_consumed hc hq, if_pos rfl] at h; omega
      -- `hasData n` is what the next node's cursor test reads: `h` takes the shape of the induction hypothesis
      rw [hq, if_neg Bool.false_ne_true, Nat.add_zero, Nat.add_comm, ← consumed_after_open] at h
      rw [quirkFree, hq, ih _ (cursorsOk_step n .open_ hc) h]
      rfl
    · have hq : quirkReadAllConsumes n op = false := by cases op <;> first | rfl | exact absurd rfl ho
      have hstep : opensOnData n (op :: r) = opensOnData (step n op).1 r := by
        cases op <;> first | rfl | exact absurd rfl ho
      have hcons := consumed_step_of_ne_open n op ho
      rw [quirkFree, hq, ih _ (cursorsOk_step n op hc) (by rwa [quirkReadAllConsumes, hcons.1, hcons.2, ← hstep])]
      rfl

/-- **C21 (partial), readable hypothesis.** Every history in which at most one `open` finds a non-empty log -
in particular every history with at most one reopen after the first record was written - leaves the open store
reporting exactly the acknowledged state. -/
theorem C21_partial_at_most_one_open_on_data (ops : List Op) (h : opensOnData {} ops ≤ 1) :
    ∀ lv, (run {} {} ops).1.live = some lv →
      lv.mem = (run {} {} ops).2.mem ∧ ∀ k, lv.peers.get? k = (run {} {} ops).2.peers.get? k :=
  C21_partial ops (quirkFree_of_opensOnData ops {} ⟨Nat.le_refl _, Nat.le_refl _⟩ h)

/-- the hypothesis of `C21_partial` is met by a history with real content and one reopen … -/
example : quirkFree {}
    [.open_, .append [⟨⟨1, 1⟩, 10⟩, ⟨⟨2, 1⟩, 0⟩], .vote ⟨1, 1, true⟩, .peer 2 5002, .kill, .open_, .state] = true := by
  decide +kernel

/-- … and is exactly what the second reopen violates -/
example : quirkFree {}
    [.open_, .append [⟨⟨1, 1⟩, 10⟩], .restart, .open_, .restart, .open_] = false := by decide +kernel

/-- the history of `corpus/readAllConsumes.oprog` -/
def witness : List Op :=
  [.open_, .append [⟨⟨1, 1⟩, 10⟩, ⟨⟨2, 1⟩, 0⟩, ⟨⟨3, 1⟩, 20⟩], .vote ⟨1, 1, true⟩, .committed (some ⟨2, 1⟩),
   .peer 2 5002, .restart, .open_, .append [⟨⟨4, 1⟩, 5⟩], .kill, .open_]

/-- **C21 is false of the code.** After the second reopen the store has forgotten the vote, the committed id,
three of the four acknowledged entries and the peer address. -/
theorem C21_counterexample :
    (run {} {} witness).1.live = some { mem := { log := [(4, ⟨⟨4, 1⟩, 5⟩)] }, peers := AMap.empty } ∧
    (run {} {} witness).2.mem.vote = some ⟨1, 1, true⟩ ∧
    (run {} {} witness).2.mem.committed = some ⟨2, 1⟩ ∧
    (run {} {} witness).2.mem.log.length = 4 ∧
    (run {} {} witness).2.peers.get? 2 = some 5002 := by
  decide +kernel

example : opensOnData {} witness = 2 := by decide +kernel

/-- **C21 over a non-consuming reader.** With `open` reading each log from its beginning (and moving no cursor),
the property holds for every history and any number of restarts. -/
theorem C21_nonconsuming_holds (ops : List Op) :
    ∀ lv, (runNC {} {} ops).1.live = some lv →
      lv.mem = (runNC {} {} ops).2.mem ∧ ∀ k, lv.peers.get? k = (runNC {} {} ops).2.peers.get? k :=
  runNC_liveOk ops {} {} inv_init (fun _ h => by simp at h)

/-- on the witness history the non-consuming reader reports everything -/
example : ((runNC {} {} witness).1.live.map (·.mem.log.length)) = some 4 := by decide +kernel

/-! ### write failures below the store (`faulty` programs) -/

/-- **A failed operation acknowledges nothing and takes nothing away.**  Whatever operation a failing record write to
the Raft log hits (the only failure `stepFault` has; a failing peer-record write is not modelled here): the records
already in the Raft log stay (the log only grows, by a prefix of what the operation would have written), the peer log
and both read cursors are untouched. -/
theorem C21_failed_operation_keeps_the_logs (n : Node) (op : Op) (k : Nat) (h : (stepFault n op k).2.1 = none) :
    (∃ extra, (stepFault n op k).1.wal.recs = n.wal.recs ++ extra ∧
      ∃ more, (step n op).1.wal.recs = n.wal.recs ++ extra ++ more) ∧
    (stepFault n op k).1.pwal = n.pwal ∧ (stepFault n op k).1.wal.consumed = n.wal.consumed := by
  rcases hv : n.live with _ | lv
  · simp [stepFault, hv] at h
  · rw [stepFault_eq n lv op k hv] at h ⊢
    split at h
    · rename_i hk
      have hop : op ≠ .open_ := by rintro rfl; simp [logged] at hk
      rw [if_pos hk, step, (stepG_writeAhead _ _ n hop).wal]
      refine ⟨⟨_, rfl, (logged lv.mem op).drop k, ?_⟩, rfl, rfl⟩
      simp [written, hv]
    · simp at h

/-- **What the restarted store reports after a failed append**, for a store in its first lifetime (`hc`: an `open` that
finds records leaves the cursor behind them): everything acknowledged, and the first `k` entries of the failed append,
which never were.  Of `hi` only the log half (`Inv.log`) is used: the peer log plays no part.  Later operations and
reopens are not covered: `Inv` need not hold of the node the append leaves. -/
theorem C21_failed_append_then_reopen (n : Node) (a : Ack) (lv : Live) (es : List Ent) (k : Nat)
    (hi : Inv n a) (hlive : n.live = some lv) (hc : n.wal.consumed = 0) (hk : k < es.length) :
    (stepFault n (.append es) k).2.1 = none ∧
    ((step (step (stepFault n (.append es) k).1 .kill).1 .open_).1.live.map (·.mem)) = some (memAppend a.mem (es.take k)) := by
  have := failed_then_reopen n a lv (.append es) k hi.log hlive hc (by simpa [logged] using hk)
  rwa [logged, ← List.map_take, replay_entries] at this

/-- **What the restarted store reports after a failed vote / committed / truncate write**, for a store in its first
lifetime as in `C21_failed_append_then_reopen` (and, as there, only `Inv.log` of `hi` is used).  These operations write
one record; when that write fails nothing reaches the log, and the restarted store reports exactly the acknowledged
state (the running process had already changed its memory - it is gone with the process).  `purge` is not in the list
because it writes its record only when the purge point does not move backwards; `failed_then_reopen` covers it under
that condition. -/
theorem C21_failed_single_record_then_reopen (n : Node) (a : Ack) (lv : Live) (op : Op)
    (hi : Inv n a) (hlive : n.live = some lv) (hc : n.wal.consumed = 0)
    (hop : (∃ v, op = .vote v) ∨ (∃ c, op = .committed c) ∨ (∃ l, op = .truncate l)) :
    (stepFault n op 0).2.1 = none ∧
    ((step (step (stepFault n op 0).1 .kill).1 .open_).1.live.map (·.mem)) = some a.mem := by
  rcases hop with ⟨v, rfl⟩ | ⟨c, rfl⟩ | ⟨l, rfl⟩ <;>
    exact failed_then_reopen n a lv _ 0 hi.log hlive hc (Nat.zero_lt_one)

/-- the first entry of a three-entry append is written, the second fails: the restarted store has the acknowledged
entry 1 and the unacknowledged entry 2, not 3 and 4 -/
example : (stepFault (run {} {} [.open_, .append [⟨⟨1, 1⟩, 5⟩]]).1 (.append [⟨⟨2, 1⟩, 7⟩, ⟨⟨3, 1⟩, 0⟩, ⟨⟨4, 1⟩, 64⟩]) 1).2.1 = none ∧
    ((step (step (stepFault (run {} {} [.open_, .append [⟨⟨1, 1⟩, 5⟩]]).1
        (.append [⟨⟨2, 1⟩, 7⟩, ⟨⟨3, 1⟩, 0⟩, ⟨⟨4, 1⟩, 64⟩]) 1).1 .kill).1 .open_).1.live.map (·.mem.log.map (·.1))) = some [2, 1] := by
  decide +kernel

end WalrusVerif.LogStore
