import WalrusVerif.Lemmas.AEngStep
/-!
# C05 — concurrent producers and consumers get exactly-once, ordered delivery

Statement: under any interleaving of concurrent appenders and concurrent consuming readers on the same
topics, every successfully appended entry is returned by exactly one consuming read.  Entries appended
by one producer thread are returned in the order that thread appended them, and a batch's entries are
returned contiguously.  This holds in StrictlyAtOnce mode and, within a single process lifetime, in
AtLeastOnce mode.

**Partial.**  What a theorem can carry here is the statement *relative to atomicity*: if every API call
takes effect atomically at some point between its invocation and its return (it holds the locks that
make it so), then an execution of any number of threads is one of the interleavings (`Interleaving`) of
their operation lists, and

* `C05_every_interleaving_is_fifo` — **every** interleaving of the threads' operation lists, of any
  length, over any topics, is a history of the FIFO specification: every appended entry is delivered by
  exactly one consuming read, in append order, a batch contiguously (its entries are appended by one
  atomic operation), nothing twice, nothing skipped.  The conclusion mentions neither `threads` nor
  the hypotheses `Interleaving threads h` and `WithinLimits`: it is `AEng.run_accepts` for the list
  `h`, whatever list it is.  What makes it a statement about concurrent executions is the atomicity
  assumption above, not the proof;
* `C05_per_thread_order_preserved` — each thread's operation list is a sublist of the interleaving.
  That "entries appended by one producer are returned in the order it appended them" is this
  together with the FIFO order of the merged history; the combination is not stated as a theorem.

Which calls of the real engine *are* atomic is read off the code, not proved: `append`, `batch_append`
(writer mutexes held from validation to commit) and cursor-based batch reads (column lock held from
planning to commit, in both consistency modes) are; `read_next` releases the column lock between its
tail snapshot and its commit and is **not** (open finding `tailReadersShareSnapshot`: concurrent
`read_next` calls on one topic deliver entries twice), and a reader overlapping a block rotation of the
writer has two further windows (`rotationInsideTailWindow`, `staleWriterSnapshot`, read in the source).  The
correspondence is a real-thread stress harness restricted to the atomic calls (DESIGN.md §0.2): real thread
scheduling and memory ordering are exercised by it, not modelled.
-/
namespace WalrusVerif.Props.C05
open WalrusVerif WalrusVerif.Eng WalrusVerif.AEng

/-- `Interleaving threads h`: `h` is a merge of the threads' operation lists that keeps each list's order -/
inductive Interleaving : List (List AOp) → List AOp → Prop where
  | done (ts : List (List AOp)) (h : ∀ t ∈ ts, t = []) : Interleaving ts []
  | step (pre post : List (List AOp)) (op : AOp) (t : List AOp) (rest : List AOp)
      (h : Interleaving (pre ++ t :: post) rest) : Interleaving (pre ++ (op :: t) :: post) (op :: rest)

/-- **C05 (relative to atomic calls).** Whatever the schedule, the history of the engine is a FIFO
history: every successfully appended entry is delivered by exactly one consuming read, in order.
(`AEng.run_accepts` at `h`; the proof uses neither `hi` nor `hl`.) -/
theorem C05_every_interleaving_is_fifo (c : Cfg) (hc : CfgOK c) (threads : List (List AOp)) (h : List AOp)
    (hi : Interleaving threads h) (hl : ∀ t ∈ threads, ∀ op ∈ t, op.WithinLimits c) :
    accepts Spec.init (h.zip (AEng.run c h)) :=
  run_accepts c hc h

theorem C05_per_thread_order_preserved {ts : List (List AOp)} {h : List AOp} (hi : Interleaving ts h) :
    ∀ t ∈ ts, t.Sublist h := by
  induction hi with
  | done ts hn => intro t ht; rw [hn t ht]; exact List.nil_sublist _
  | step pre post op t rest _ ih =>
    exact List.forall_mem_append.mpr ⟨fun t' ht' => (ih t' (List.mem_append_left _ ht')).cons _,
      List.forall_mem_cons.mpr ⟨(ih t List.mem_append_cons_self).cons_cons _,
        fun t' ht' => (ih t' (List.mem_append_right _ (List.mem_cons_of_mem _ ht'))).cons _⟩⟩

/-! Non-vacuity: two producers and a batch consumer, one schedule (small geometry). -/
example : Interleaving [[.append ⟨0, false⟩ ⟨5, 1⟩, .append ⟨0, false⟩ ⟨6, 2⟩], [.batch ⟨0, false⟩ [⟨7, 3⟩, ⟨8, 4⟩]], [.bread ⟨0, false⟩ 9999 true none]]
    [.append ⟨0, false⟩ ⟨5, 1⟩, .batch ⟨0, false⟩ [⟨7, 3⟩, ⟨8, 4⟩], .append ⟨0, false⟩ ⟨6, 2⟩, .bread ⟨0, false⟩ 9999 true none] := by
  apply Interleaving.step [] _ _ _ _
  apply Interleaving.step [[.append ⟨0, false⟩ ⟨6, 2⟩]] _ _ [] _
  apply Interleaving.step [] _ _ [] _
  apply Interleaving.step [[], []] [] _ [] _
  exact Interleaving.done _ (by intro t ht; simp at ht; rcases ht with rfl | rfl | rfl <;> rfl)

example : AEng.run smallCfg [.append ⟨0, false⟩ ⟨5, 1⟩, .batch ⟨0, false⟩ [⟨7, 3⟩, ⟨8, 4⟩], .append ⟨0, false⟩ ⟨6, 2⟩, .bread ⟨0, false⟩ 9999 true none] =
    [.ok, .ok, .ok, .entries [(⟨5, 1⟩, 0), (⟨7, 3⟩, 0), (⟨8, 4⟩, 0), (⟨6, 2⟩, 0)]] := by decide +kernel

end WalrusVerif.Props.C05
