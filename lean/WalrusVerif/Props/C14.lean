import WalrusVerif.Lemmas.SanitizeLemmas
/-!
# C14 — a namespace key always maps to a private directory inside the data dir

Statement (properties.jsonl): for every namespace key, through any constructor or the builder,
all files of the instance are created in a directory strictly inside the configured data
directory; that directory is neither the data directory itself nor any location outside it.

Model: `Sanitize.sanitize` (character class, fallback and exclusions regenerated from
`src/wal/config.rs` by the translator) and `Sanitize.instanceDir root key`
= lexical resolution of `root.push(sanitize_namespace(key))`; that every constructor and the builder do just
this is assumed (translator check, Model/Sanitize.lean), not proved.  Paths are component lists; the
data dir `root` is arbitrary (it may itself contain `.`/`..`/empty components).
-/
namespace WalrusVerif.Props.C14
open WalrusVerif WalrusVerif.Sanitize

/-- The directory component is non-empty, has no `/` and no NUL, and is neither `.` nor `..` —
for **every** key string. -/
theorem C14_component_safe (key : List Char) :
    sanitize key ≠ [] ∧ (∀ c ∈ sanitize key, c ≠ '/' ∧ c ≠ Char.ofNat 0) ∧
      sanitize key ≠ ['.'] ∧ sanitize key ≠ ['.', '.'] :=
  sanitize_ok key

/-- C14: the instance directory is the (resolved) data dir extended by the one component `sanitize key`,
which is proper by `C14_component_safe`. -/
theorem C14 (root : List (List Char)) (key : List Char) :
    instanceDir root key = resolve root ++ [sanitize key] := by
  obtain ⟨h0, hc, h1, h2⟩ := sanitize_ok key
  have hns : ∀ c ∈ sanitize key, c ≠ '/' := fun c h => (hc c h).1
  unfold instanceDir push
  split
  · rename_i rest heq
    exact absurd rfl (hns '/' (by rw [heq]; simp))
  · rw [splitSlash_noslash _ hns]
    exact resolve_append_single root _ h0 h1 h2

/-- hence strictly inside the data dir -/
theorem C14_strictly_inside (root : List (List Char)) (key : List Char) :
    resolve root <+: instanceDir root key ∧ instanceDir root key ≠ resolve root ∧
      (instanceDir root key).length = (resolve root).length + 1 := by
  rw [C14]
  refine ⟨List.prefix_append _ _, ?_, by simp⟩
  intro h
  have := congrArg List.length h
  simp at this

/-- Keys that sanitize differently give distinct directories.  Distinct keys may sanitize to the same component
(`a/b` and `a_b`); then the directories coincide, and this statement does not apply. -/
theorem C14_distinct (root : List (List Char)) (k₁ k₂ : List Char)
    (h : sanitize k₁ ≠ sanitize k₂) : instanceDir root k₁ ≠ instanceDir root k₂ := by
  rw [C14, C14]
  intro e
  exact h (by simpa using e)

/-! Non-vacuity / regression witnesses (evaluated by the kernel on the model). -/
example : sanitize ['.', '.'] ≠ ['.', '.'] := (C14_component_safe _).2.2.2
example : (sanitize ['.', '.']).take 3 = ['n', 's', '_'] := by decide
example : sanitize ['a', '/', 'b'] = ['a', '_', 'b'] := by decide
example : instanceDir [['d'], ['.', '.'], ['w']] ['x', ' ', 'y'] = [['w'], ['x', '_', 'y']] := by decide

end WalrusVerif.Props.C14
