import WalrusVerif.Lemmas.AEngStep
import WalrusVerif.Model.Engine
/-!
# C04 — rejected or failed appends leave no trace; batches are all-or-nothing

Statement: an append or batch append that returns an error never makes any of its entries readable,
now or after a restart.  It also does not change which entries of earlier or later successful
appends are readable, or their order.  A successful batch becomes visible as one contiguous run:
no reader, concurrent or later, ever observes only part of a batch.

**Partial.**  Proved:

* `C04_rejected_append_keeps_topic`, `C04_rejected_batch_keeps_topic` (entry-level model, every state
  that satisfies the per-topic invariant `TInv`; stated of `write` / `batchWrite`, below `get_or_create_writer`:
  `hw : a.writer = some w`): an append / batch append that returns an error — over
  the entry cap, over the byte limit, an entry larger than `MAX_ALLOC`, topic name too long for the
  header — leaves the topic's log, its consumed index and its count exactly as they were (not the topic: a
  rejected write may have sealed the active block and opened a new one, `Appends.err`), and the state stays inside the
  invariant all later reads rely on.  (An empty batch returns ok.)  The size hypothesis
  `hl` of these and of `C04_batch_contiguous` is not used: the `_any_size` theorems are the same statements
  without it, since `write` and `batchWrite` reject an entry larger than `MAX_ALLOC` before any state changes.
* `C04_rejected_invisible_in_histories`: in every history (any topics, both read APIs, rejected
  operations interleaved anywhere) the reads and counts are those of the FIFO of the *successful*
  appends only — rejected operations contribute nothing and reorder nothing.
* `C04_batch_contiguous`: a successful batch extends the log by exactly its entries, in order, as
  one contiguous run (with `C04_rejected_batch_keeps_topic`: the batch is in the log whole or not at all; a read may
  still return only part of it).
* `C04_failed_batch_in_block` (storage-level model, injected I/O failure — a failed or short
  io_uring completion, a failed `Block::write`, a failed submission): a failed batch whose planning did not
  leave the writer's block leaves writers, readers, index, counts, trackers and directories as they were.
* `C04_counterexample_rollbackKeepsNewBlock` (open finding): when the planning **did** rotate the
  block, the rollback restores the offset but neither the block switch nor the seal (whose `used`
  covers the zeroed entries): entries of later successful appends are never delivered.  The same
  program is corpus/rollbackKeepsNewBlock.prog and is replayed on the real engine on every run.

Not proved here: the clause "or after a restart" (decided by the restart histories of the
correspondence run; a rejected *first* operation on a topic allocates the topic's block — open
findings `emptyBlockAllocated` / `scanStopsAtEmptyBlock`); concurrent readers (C05).  (In the repository an
entry larger than `MAX_ALLOC` is rejected before any state changes since commit 843acde; before it the writer sealed
its block first: finding `sealThenAllocFail`, corpus/sealThenAllocFail.prog.)
-/
namespace WalrusVerif.Props.C04
open WalrusVerif WalrusVerif.Eng WalrusVerif.AEng

/-- a rejected append - whatever the reason, "too large for any block" included - leaves log, consumed index, count and
invariant untouched: for an entry of any size -/
theorem C04_rejected_append_keeps_topic_any_size (c : Cfg) (hc : CfgOK c) (n : Nat) (a : ATopic) (k : Nat) (h : TInv c n a k)
    (w : ABlk) (hw : a.writer = some w) (long : Bool) (p : Pay)
    (herr : (AEng.write c n a w long p).2.2 ≠ none) :
    log (AEng.write c n a w long p).2.1 = log a ∧ (AEng.write c n a w long p).2.1.count = a.count ∧
      TInv c (AEng.write c n a w long p).1 (AEng.write c n a w long p).2.1 k := by
  have r := write_appends hc.meta_pos h hw long p
  exact ⟨r.err herr, r.count, r.inv⟩

theorem C04_rejected_batch_keeps_topic_any_size (c : Cfg) (hc : CfgOK c) (n : Nat) (a : ATopic) (k : Nat) (h : TInv c n a k)
    (w : ABlk) (hw : a.writer = some w) (long : Bool) (ps : List Pay)
    (herr : (AEng.batchWrite c n a w long ps).2.2 ≠ none) :
    log (AEng.batchWrite c n a w long ps).2.1 = log a ∧ (AEng.batchWrite c n a w long ps).2.1.count = a.count ∧
      TInv c (AEng.batchWrite c n a w long ps).1 (AEng.batchWrite c n a w long ps).2.1 k := by
  have r := batchWrite_appends hc.bs_le hc.bs_pos h hw long ps
  exact ⟨r.err herr, r.count, r.inv⟩

theorem C04_batch_contiguous_any_size (c : Cfg) (hc : CfgOK c) (n : Nat) (a : ATopic) (k : Nat) (h : TInv c n a k)
    (w : ABlk) (hw : a.writer = some w) (long : Bool) (ps : List Pay)
    (hok : (AEng.batchWrite c n a w long ps).2.2 = none) :
    log (AEng.batchWrite c n a w long ps).2.1 = log a ++ ps :=
  (batchWrite_appends hc.bs_le hc.bs_pos h hw long ps).ok hok

/-- `hl` is not used -/
theorem C04_rejected_append_keeps_topic (c : Cfg) (hc : CfgOK c) (n : Nat) (a : ATopic) (k : Nat) (h : TInv c n a k)
    (w : ABlk) (hw : a.writer = some w) (long : Bool) (p : Pay) (hl : raw c p ≤ c.maxAlloc)
    (herr : (AEng.write c n a w long p).2.2 ≠ none) :
    log (AEng.write c n a w long p).2.1 = log a ∧ (AEng.write c n a w long p).2.1.count = a.count ∧
      TInv c (AEng.write c n a w long p).1 (AEng.write c n a w long p).2.1 k :=
  C04_rejected_append_keeps_topic_any_size c hc n a k h w hw long p herr

/-- `hl` is not used -/
theorem C04_rejected_batch_keeps_topic (c : Cfg) (hc : CfgOK c) (n : Nat) (a : ATopic) (k : Nat) (h : TInv c n a k)
    (w : ABlk) (hw : a.writer = some w) (long : Bool) (ps : List Pay) (hl : ∀ p ∈ ps, raw c p ≤ c.maxAlloc)
    (herr : (AEng.batchWrite c n a w long ps).2.2 ≠ none) :
    log (AEng.batchWrite c n a w long ps).2.1 = log a ∧ (AEng.batchWrite c n a w long ps).2.1.count = a.count ∧
      TInv c (AEng.batchWrite c n a w long ps).1 (AEng.batchWrite c n a w long ps).2.1 k :=
  C04_rejected_batch_keeps_topic_any_size c hc n a k h w hw long ps herr

/-- `hl` is not used -/
theorem C04_batch_contiguous (c : Cfg) (hc : CfgOK c) (n : Nat) (a : ATopic) (k : Nat) (h : TInv c n a k)
    (w : ABlk) (hw : a.writer = some w) (long : Bool) (ps : List Pay) (hl : ∀ p ∈ ps, raw c p ≤ c.maxAlloc)
    (hok : (AEng.batchWrite c n a w long ps).2.2 = none) :
    log (AEng.batchWrite c n a w long ps).2.1 = log a ++ ps :=
  C04_batch_contiguous_any_size c hc n a k h w hw long ps hok

/-- an oversized entry is rejected (the hypothesis `herr` above is met) and nothing at all changes -/
example (c : Cfg) (n : Nat) (a : ATopic) (w : ABlk) (long : Bool) (p : Pay) (hbig : raw c p > c.maxAlloc) :
    AEng.write c n a w long p = (n, a, some .invalidInput) := by
  unfold AEng.write; simp [hbig]

def successfulOnly : List (AOp × Out) → List (AOp × Out)
  | [] => []
  | (.append _ _, .err _) :: r => successfulOnly r
  | (.batch _ _, .err _) :: r => successfulOnly r
  | x :: r => x :: successfulOnly r

/-- the specification never looks at a rejected operation -/
theorem accepts_successfulOnly (σ : Spec) (h : List (AOp × Out)) : accepts σ h ↔ accepts σ (successfulOnly h) := by
  fun_induction successfulOnly h generalizing σ with
  | case1 => exact Iff.rfl
  | case2 | case3 => rename_i ih; rw [accepts_cons]; simpa [Spec.ok, Spec.after] using ih σ
  | case4 x => rename_i ih; obtain ⟨op, out⟩ := x; rw [accepts_cons, accepts_cons, ih]

/-- **C04 (histories).** Every history of the engine is a FIFO history of its *successful* appends
alone: what the rejected operations offered is never readable and changes nothing else.  (`hl` is not used:
`run_accepts` needs no bound on sizes.) -/
theorem C04_rejected_invisible_in_histories (c : Cfg) (hc : CfgOK c) (ops : List AOp) (hl : ∀ op ∈ ops, op.WithinLimits c) :
    accepts Spec.init (successfulOnly (ops.zip (AEng.run c ops))) :=
  (accepts_successfulOnly _ _).1 (run_accepts c hc ops)

/-- planning a batch that fits the writer's current block touches nothing -/
theorem planBatch_fits (c : Cfg) (t : Topic) (ps : List Pay) (p : Proc) (i : Inst) (b : Blk) (off : Nat)
    (acc : List (Blk × Nat × Pay)) (hfit : off + (ps.map fun x => c.metaSz + x.len).sum ≤ b.limit) :
    ∃ plan, planBatch c t ps p i b off acc = (p, i, b, some (off + (ps.map fun x => c.metaSz + x.len).sum, plan)) ∧
      ∀ x ∈ plan, x ∈ acc ∨ x.1 = b := by
  fun_induction planBatch c t ps p i b off acc with
  | case1 => exact ⟨_, rfl, fun x hx => .inl (List.mem_reverse.mp hx)⟩
  | case2 =>
    rename_i ih
    simp only [List.map_cons, List.sum_cons] at hfit ⊢
    obtain ⟨plan, hp, hmem⟩ := ih (by omega)
    refine ⟨plan, by rw [hp, Nat.add_assoc], fun x hx => (hmem x hx).elim (fun h => ?_) .inr⟩
    rcases List.mem_cons.mp h with rfl | h
    · exact .inr rfl
    · exact .inl h
  | case3 | case4 =>
    -- the entry fits, so the block is not left
    simp only [List.map_cons, List.sum_cons] at hfit
    exact (‹¬ _ ≥ _› (Nat.le_sub_of_add_le (by omega))).elim

/-- **C04 (failed batch inside one block).** A batch that fits the writer's current block and fails
by an injected I/O fault leaves every writer of the instance, its reader chains, index and counts,
the process-global trackers and the directories (index and marker files) exactly as they were.
What the rollback does to the WAL file, where it zeroes the headers it had planned, is not part of
the statement.  Nor is the operation around it: the statement is about `writerBatchWrite`, below the
dirty mark (`markClean`) and the creation of the writer (`getOrCreateWriter`) of `batchAppendForTopic`,
which a failed batch keeps. -/
theorem C04_failed_batch_in_block (c : Cfg) (p : Proc) (i : Inst) (t : Topic) (w : Writer) (ps : List Pay) (flt : Fault)
    (hw : i.writers.get? t = some w)
    (hfit : w.off + (ps.map fun x => c.metaSz + x.len).sum ≤ w.blk.limit)
    (hfail : (writerBatchWrite c p i t w ps (some flt)).2.2 = some .other) :
    let r := writerBatchWrite c p i t w ps (some flt)
    (∀ t', r.2.1.writers.get? t' = i.writers.get? t') ∧ r.2.1.readers = i.readers ∧ r.2.1.index = i.index ∧
      r.2.1.counts = i.counts ∧ r.1.trk = p.trk ∧ r.1.dirs = p.dirs := by
  obtain ⟨plan, hp, hmem⟩ := planBatch_fits c t ps p i w.blk w.off [] hfit
  have hids : ∀ x ∈ plan, x.1.id = w.blk.id := by
    intro x hx
    rcases hmem x hx with h | h
    · cases h
    · rw [h]
  intro r
  revert hfail
  simp only [r]
  unfold writerBatchWrite
  split
  · intro h; cases h
  · fun_cases writerBatchWriteCore c p i t w ps (some flt) with
    | case7 =>
      -- arm 7 of `writerBatchWriteCore`, the rollback, alone returns `.other`; its plan lies in `w.blk`: nothing to unlock
      rename_i hpl _ _ newIds trk
      intro _
      rw [hp] at hpl
      cases hpl
      have hnew : newIds = [] := by
        apply List.filter_eq_nil_iff.mpr
        intro id hid
        obtain ⟨x, hx, e⟩ := List.mem_map.mp (List.mem_eraseDups.mp hid)
        simp [← e, hids x hx]
      refine ⟨fun t' => ?_, rfl, rfl, rfl, by simp only [trk, hnew, List.foldl_nil], rfl⟩
      by_cases e : t = t'
      · subst e; rw [AMap.get?_insert_self, hw]
      · exact AMap.get?_insert_ne _ _ _ _ e
    | _ => intro h; cases h

/-- **Open finding `rollbackKeepsNewBlock`.** A batch that rotated the block while planning and then
fails: the consumer is stuck at the zeroed header inside the sealed block; the entry of the next
*successful* append (`10:4`) is never delivered, `count` stays at 1, a batch read returns nothing.
(small geometry; corpus/rollbackKeepsNewBlock.prog replays the same program on the real engine) -/
theorem C04_counterexample_rollbackKeepsNewBlock :
    Eng.run smallCfg
      [.open_ .strict, .append ⟨0, false⟩ ⟨3000, 1⟩, .batchF ⟨0, false⟩ [⟨500, 2⟩, ⟨2000, 3⟩] ⟨0, 1⟩,
       .append ⟨0, false⟩ ⟨10, 4⟩, .next ⟨0, false⟩ true, .next ⟨0, false⟩ true, .count ⟨0, false⟩,
       .bread ⟨0, false⟩ 99999 true none] =
    [.ok, .ok, .err .other, .ok, .entry (some ⟨3000, 1⟩), .entry none, .num 1, .entries []] := by
  decide +kernel

/-! Non-vacuity of `C04_failed_batch_in_block`: a faulted batch inside one block; afterwards the
log, the count and all later reads are those of the successful appends only. -/
example : Eng.run smallCfg
      [.open_ .strict, .append ⟨0, false⟩ ⟨100, 1⟩, .batchF ⟨0, false⟩ [⟨50, 2⟩, ⟨60, 3⟩] ⟨0, 1⟩,
       .append ⟨0, false⟩ ⟨10, 4⟩, .count ⟨0, false⟩, .bread ⟨0, false⟩ 99999 true none] =
    [.ok, .ok, .err .other, .ok, .num 2, .entries [(⟨100, 1⟩, 0), (⟨10, 4⟩, 0)]] := by decide +kernel

end WalrusVerif.Props.C04
