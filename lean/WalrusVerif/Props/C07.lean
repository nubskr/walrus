import WalrusVerif.Lemmas.CrashLemmas
import WalrusVerif.Props.C06
/-!
# C07 — acknowledged appends survive a process crash at any point

Statement: if the process dies at any point, the reopened instance recovers without error.  Each
topic then yields every append that had returned success, in order and byte-identical, followed by
at most the entries of operations still in flight at the crash, and nothing else.

**Partial.**  The crash model (Model/Engine.lean): `kill` = the process dies between two operations;
`crashAt kind n fd op` = it dies inside `op`, immediately before its `n`-th I/O event of the given
kind (hook H1 performs `_exit` at exactly those points on the real engine).  Completed writes
persist (process-crash model of the statement), nothing in memory survives, the index file holds
what had been persisted.  Proved about it:

* `C07_crash_in_append_touches_no_entry` — a process death inside a single append (before its entry
  write, whether or not the append had rotated the block or rolled over to a new file) leaves every
  existing WAL file exactly as it was and adds at most new *empty* files: no acknowledged entry is
  lost, altered or reordered, and nothing of the append in flight is on disk (stated for `crashAt 0 0 fd`, the
  entry write: the one event at which the model lets an append die; the same write addressed as kind 8 is not
  covered by the statement);
* `C07_crash_in_read_touches_no_entry` — the same for a death inside `read_next` / a batch read;
* `C07_kill_touches_no_entry` — and for a death between two operations;
* `C07_friendly_appends_survive_crash_in_append` — with the recovery theorem of C06: after successful friendly
  appends and a death inside the next one, the recovery scan finds exactly the acknowledged entries;
* (C08) what a death inside a *batch* append leaves on disk: a prefix of the batch, see Props/C08.

"The reopened instance then yields exactly those entries" — i.e. that `startup_chore` finds every
entry that is on disk — is decided by the correspondence and the oracle: ~470 histories per quick run
with the process killed inside appends and batches at every entry write (and, on the io_uring path,
before the submission and at the completions), both backends, followed by reopen, counts and a full
drain; oracle: every acknowledged append is delivered, in order, plus at most a prefix of the
operation in flight.  Open findings in whose regions the property is false (acknowledged entries
stored behind an allocated-but-empty block are not recovered): `emptyBlockAllocated`,
`scanStopsAtEmptyBlock`; plus the regions listed under C06.
-/
namespace WalrusVerif.Props.C07
open WalrusVerif WalrusVerif.Eng

theorem C07_crash_in_append_touches_no_entry (c : Cfg) (p : Proc) (fd : Bool) (t : Topic) (pay : Pay)
    (hc : (step c p (.crashAt 0 0 fd (.append t pay))).2 = .crashed) :
    FilesExt p (step c p (.crashAt 0 0 fd (.append t pay))).1 := by
  cases hi : p.inst with
  | none => simp [step, hi, withInst] at hc
  | some i =>
    revert hc
    simp only [step, hi, Nat.reduceEqDiff, if_false, and_self, if_true, false_or, false_and]
    split
    · -- it died at the entry write, which the model runs as an append whose write fails
      next h =>
      split at h <;> cases h
      next h => exact fun _ => filesExt_trans ((appendForTopic_outcome h).2 nofun) (filesExt_of_eq _ _ (files_dieWith ..))
    · -- it did not: the append ran as ever, and an append does not answer `crashed`
      rw [withInst_some _ _ _ rfl]
      rcases (appendForTopic_outcome rfl).1.out with h | ⟨_, h, _⟩ <;> rw [h] <;> nofun

/-- the statement and proof of `C09_crash_in_read_keeps_every_wal_file`: C07 reads it as "no entry is lost", C09 as
"only the position can move" -/
theorem C07_crash_in_read_touches_no_entry (c : Cfg) (p : Proc) (kind n : Nat) (fd : Bool) (t : Topic)
    (cp : Bool) (m : Nat) (st : Option Nat) :
    (step c p (.crashAt kind n fd (.next t cp))).1.files = p.files ∧
    (step c p (.crashAt kind n fd (.bread t m cp st))).1.files = p.files :=
  files_crashAt_read c p kind n fd t cp m st

theorem C07_kill_touches_no_entry (c : Cfg) (p : Proc) : (step c p .kill).1.files = p.files := by
  show (abandonInst { p with inst2 := none }).files = p.files
  fun_cases abandonInst <;> rfl

/-! Non-vacuity: an append that rotates the block is killed before its write; after the restart the
topic holds exactly the acknowledged entries, a later append is delivered after them. -/
example : Eng.run smallCfg
      [.clock 1700000000000, .open_ .strict, .append ⟨0, false⟩ ⟨3000, 1⟩, .append ⟨0, false⟩ ⟨500, 2⟩,
       .crashAt 0 0 true (.append ⟨0, false⟩ ⟨2000, 3⟩), .clock 1700000001000, .open_ .strict, .count ⟨0, false⟩,
       .append ⟨0, false⟩ ⟨7, 4⟩, .bread ⟨0, false⟩ 99999 true none] =
    [.ok, .ok, .ok, .ok, .crashed, .ok, .ok, .num 2, .ok,
     .entries [(⟨3000, 1⟩, 0), (⟨500, 2⟩, 0), (⟨7, 4⟩, 0)]] := by decide +kernel

open WalrusVerif.Props.C06 in
/-- **Acknowledged friendly appends survive a process death inside the next append** (storage-level model): the
conclusion of `C06_friendly_appends_are_recovered` for the file the death leaves.  The dying step runs on
`{ (appendAll ..).1 with inst := some (appendAll ..).2 }` because `appendAll` runs `appendForTopic` on a `Proc` and an
`Inst` outside `withInst`, and no lemma identifies that pair with the state of an `Eng.step` program. -/
theorem C07_friendly_appends_survive_crash_in_append (c : Cfg) (hc : AEng.CfgOK c) (p : Proc) (i : Inst) (f : Nat)
    (hinit : DiskInv c p i f []) (ops : List (Topic × Pay)) (hf : Friendly c ops)
    (hroom : ops.length * c.blockSize ≤ c.fileSize) (fd : Bool) (t : Topic) (pay : Pay)
    (hcr : (step c { (appendAll c p i ops).1 with inst := some (appendAll c p i ops).2 }
        (.crashAt 0 0 fd (.append t pay))).2 = .crashed) (s : ScanSt) :
    ∃ L : List LBlock, (∀ t', entriesOf t' L = (ops.filter (fun x => x.1 = t')).map (·.2)) ∧
      ∀ fuel, L.length < fuel →
        scanFile c f (fileCells (step c { (appendAll c p i ops).1 with inst := some (appendAll c p i ops).2 }
          (.crashAt 0 0 fd (.append t pay))).1.files f) fuel 0 s = L.foldl (blockStep c f) s := by
  obtain ⟨L, hD, g⟩ := diskInv_appendAll c hc f ops p i [] hinit hf (by simpa using hroom)
  have he : FilesExt (appendAll c p i ops).1 _ :=
    C07_crash_in_append_touches_no_entry c { (appendAll c p i ops).1 with inst := some (appendAll c p i ops).2 } fd t pay hcr
  exact (hD.filesExt he).recovered g hc hroom s

open WalrusVerif.Props.C06 in
/-- the hypotheses are met: two appends on a fresh file, then a death inside a third -/
example : (step smallCfg
    { (appendAll smallCfg { files := [{ dir := 0, name := 1, cells := [], present := true }] } {}
        [(⟨0, false⟩, ⟨100, 1⟩), (⟨1, false⟩, ⟨200, 2⟩)]).1 with
      inst := some (appendAll smallCfg { files := [{ dir := 0, name := 1, cells := [], present := true }] } {}
        [(⟨0, false⟩, ⟨100, 1⟩), (⟨1, false⟩, ⟨200, 2⟩)]).2 }
    (.crashAt 0 0 true (.append ⟨0, false⟩ ⟨10, 9⟩))).2 = .crashed := by decide +kernel

end WalrusVerif.Props.C07
