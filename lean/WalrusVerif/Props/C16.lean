import WalrusVerif.Lemmas.EngFrame
/-!
# C16 — FD/io_uring and mmap backends behave identically

Statement: for any operation sequence, including restarts and rejected operations, the FD backend
(io_uring batches and positional I/O) and the mmap backend return the same results, the same
errors and the same entries in the same order.

The engine model `Eng` has **one** write path and **one** read path: every decision the code takes
(validation order, planning, rotation, offsets, commit, rollback conditions) is shared by the two
backends in `writer.rs` / `walrus_read.rs`; the backends differ only in *how bytes reach the file*:
the mmap backend performs the writes of a batch one after the other in plan order, the FD backend
submits them to io_uring together, and the kernel may complete them in any order.  That is the one
degree of freedom the model has to justify:

* `C16_completion_order_irrelevant` — for writes whose byte ranges are pairwise disjoint (`PairwiseDisj`),
  applying them in **any** order (any permutation) leaves every file with the same set of valid entries: the
  same cells up to the order of the list (`Equiv`).  Not proved: that a later read or a recovery scan, which
  take the first cell at an offset (`cellAt`), cannot tell two such lists apart; that needs the cells of a
  file to have distinct offsets.
* `batch_writes_are_applyAll` — the fold of `writeCell` over a plan (run by `writerBatchWriteCore` on success and
  by `crashBatchDisk`) is `applyAll` of the plan's requests `reqsOf`.
* `C16_plan_ranges_disjoint_in_block` — requests that lie back to back in one block, strictly increasing
  (`layout`: this file's description of what `batch_write` plans into a block), are pairwise disjoint.  No
  theorem says that `reqsOf` of a plan returned by `planBatch` is such a `layout`, and the blocks of a batch
  that rotates are not compared with each other: the hypothesis of the first theorem is not discharged for the
  plans the model produces.

Everything else of the statement ("same results, same errors, same entries, same order, across
restarts and rejected operations") is decided by the double correspondence: every generated program
is executed once per backend in separate processes, the two output streams are compared with each
other and each with this (backend-independent) model.  Labelled **partial**: kernel behaviour
(pread/mmap coherence, io_uring ordering) is exercised, not modelled.
-/
namespace WalrusVerif.Props.C16
open WalrusVerif WalrusVerif.Eng

/-- one planned write of a batch: a cell (header + payload) at a file offset -/
structure WriteReq where
  file : Nat
  cell : Cell

def WriteReq.lo (w : WriteReq) : Nat := w.cell.off
def WriteReq.hi (c : Cfg) (w : WriteReq) : Nat := w.cell.stop c

/-- the effect of one completed write on the cells of its file (what `writeCell` does) -/
def applyCells (c : Cfg) (cs : List Cell) (x : Cell) : List Cell := clobber c cs x.off (x.stop c) ++ [x]

def applyWrite (c : Cfg) (files : List FileSt) (w : WriteReq) : List FileSt :=
  updFileCells files w.file fun cs => applyCells c cs w.cell

def applyAll (c : Cfg) (files : List FileSt) (ws : List WriteReq) : List FileSt := ws.foldl (applyWrite c) files

theorem applyWrite_eq_writeCell (c : Cfg) (files : List FileSt) (b : Blk) (o : Nat) (t : Topic) (pay : Pay) :
    writeCell c files b o t pay = applyWrite c files ⟨b.file, { off := b.off + o, topic := t, pay := pay }⟩ := rfl

/-- byte ranges of two writes do not overlap -/
def Disj (c : Cfg) (a b : WriteReq) : Prop := a.file ≠ b.file ∨ a.hi c ≤ b.lo ∨ b.hi c ≤ a.lo

/-- two states of a disk are equivalent when every file holds the same cells up to list order -/
def Equiv (f g : List FileSt) : Prop :=
  f.length = g.length ∧ ∀ k, (fileCells f k).Perm (fileCells g k) ∧
    ((f[k]?).map fun x => (x.dir, x.name, x.present)) = ((g[k]?).map fun x => (x.dir, x.name, x.present))

theorem Equiv.refl (f : List FileSt) : Equiv f f := ⟨rfl, fun _ => ⟨List.Perm.refl _, rfl⟩⟩

theorem Equiv.trans {f g h : List FileSt} (a : Equiv f g) (b : Equiv g h) : Equiv f h :=
  ⟨a.1.trans b.1, fun k => ⟨(a.2 k).1.trans (b.2 k).1, (a.2 k).2.trans (b.2 k).2⟩⟩

theorem meta_upd (files : List FileSt) (f k : Nat) (g : List Cell → List Cell) :
    ((updFileCells files f g)[k]?).map (fun x => (x.dir, x.name, x.present)) =
      (files[k]?).map fun x => (x.dir, x.name, x.present) := by
  unfold updFileCells
  simp only [List.getElem?_mapIdx]
  cases files[k]? with
  | none => rfl
  | some fs => by_cases hk : k = f <;> simp [hk]

theorem applyWrite_equiv (c : Cfg) {f g : List FileSt} (h : Equiv f g) (w : WriteReq) :
    Equiv (applyWrite c f w) (applyWrite c g w) := by
  refine ⟨by unfold applyWrite; rw [length_updFileCells, length_updFileCells]; exact h.1, fun k => ⟨?_, ?_⟩⟩
  · unfold applyWrite
    rw [fileCells_updFileCells, fileCells_updFileCells, h.1]  -- the only use of `h.1`
    split
    · exact ((h.2 k).1.filter _).append_right _
    · exact (h.2 k).1
  · unfold applyWrite; rw [meta_upd, meta_upd]; exact (h.2 k).2

theorem applyAll_equiv (c : Cfg) (ws : List WriteReq) {f g : List FileSt} (h : Equiv f g) :
    Equiv (applyAll c f ws) (applyAll c g ws) :=
  List.foldl_rel h fun w _ _ _ h => applyWrite_equiv c h w

theorem clobber_comm (c : Cfg) (cs : List Cell) (a b d e : Nat) :
    clobber c (clobber c cs a b) d e = clobber c (clobber c cs d e) a b := by
  unfold clobber; simp only [List.filter_filter]; congr 1; funext x; exact Bool.and_comm _ _

theorem clobber_append (c : Cfg) (a b : List Cell) (lo hi : Nat) :
    clobber c (a ++ b) lo hi = clobber c a lo hi ++ clobber c b lo hi := List.filter_append ..

theorem clobber_keep (c : Cfg) (x : Cell) (lo hi : Nat) (h : x.stop c ≤ lo ∨ hi ≤ x.off) :
    clobber c [x] lo hi = [x] := by
  unfold clobber
  rcases h with h | h <;> simp [Nat.not_lt.mpr h]

theorem applyCells_comm (c : Cfg) (cs : List Cell) (x y : Cell) (h : x.stop c ≤ y.off ∨ y.stop c ≤ x.off) :
    (applyCells c (applyCells c cs x) y).Perm (applyCells c (applyCells c cs y) x) := by
  unfold applyCells
  rw [clobber_append, clobber_append, clobber_keep c x _ _ h, clobber_keep c y _ _ h.symm, clobber_comm]
  simp only [List.append_assoc]
  apply List.Perm.append_left
  exact List.Perm.swap y x []

theorem applyWrite_comm (c : Cfg) (f : List FileSt) (a b : WriteReq) (h : Disj c a b) :
    Equiv (applyWrite c (applyWrite c f a) b) (applyWrite c (applyWrite c f b) a) := by
  refine ⟨by unfold applyWrite; simp only [length_updFileCells], fun k => ⟨?_, ?_⟩⟩
  · unfold applyWrite
    rw [fileCells_updFileCells, fileCells_updFileCells, fileCells_updFileCells, fileCells_updFileCells, length_updFileCells, length_updFileCells]
    by_cases ha : k = a.file ∧ k < f.length
    · by_cases hb : k = b.file ∧ k < f.length
      · simp only [if_pos ha, if_pos hb]
        rcases h with h | h
        · exact absurd (ha.1.symm.trans hb.1) h
        · exact applyCells_comm c _ _ _ h
      · simp only [if_pos ha, if_neg hb]; exact List.Perm.refl _
    · by_cases hb : k = b.file ∧ k < f.length
      · simp only [if_neg ha, if_pos hb]; exact List.Perm.refl _
      · simp only [if_neg ha, if_neg hb]; exact List.Perm.refl _
  · unfold applyWrite; simp only [meta_upd]

/-- by recursion, as `C16_completion_order_irrelevant` states it; it is `List.Pairwise (Disj c)` (`pairwiseDisj_iff`),
which is how `Perm.pairwise` reaches it -/
def PairwiseDisj (c : Cfg) : List WriteReq → Prop
  | [] => True
  | w :: r => (∀ v ∈ r, Disj c w v) ∧ PairwiseDisj c r

theorem disj_symm (c : Cfg) {a b : WriteReq} (h : Disj c a b) : Disj c b a := by
  rcases h with h | h | h
  · exact Or.inl (fun e => h e.symm)
  · exact Or.inr (Or.inr h)
  · exact Or.inr (Or.inl h)

theorem pairwiseDisj_iff (c : Cfg) (l : List WriteReq) : PairwiseDisj c l ↔ l.Pairwise (Disj c) := by
  induction l with
  | nil => simp [PairwiseDisj]
  | cons w r ih => rw [PairwiseDisj, List.pairwise_cons, ih]

theorem pairwise_perm (c : Cfg) {a b : List WriteReq} (p : a.Perm b) (h : PairwiseDisj c a) : PairwiseDisj c b :=
  (pairwiseDisj_iff c b).2 (p.pairwise ((pairwiseDisj_iff c a).1 h) (disj_symm c))

/-- **C16 (write path).** The completed writes of a batch whose ranges are pairwise disjoint leave
the same entries on disk whatever order the kernel completes them in: per file, the same cells up to the order of
the list. -/
theorem C16_completion_order_irrelevant (c : Cfg) (files : List FileSt) (ws ws' : List WriteReq)
    (p : ws.Perm ws') (h : PairwiseDisj c ws) : Equiv (applyAll c files ws) (applyAll c files ws') := by
  induction p generalizing files with
  | nil => exact Equiv.refl _
  | cons x _ ih => exact ih (applyWrite c files x) h.2
  | swap x y l =>
    unfold applyAll
    simp only [List.foldl_cons]
    have hd : Disj c y x := h.1 x (List.mem_cons_self ..)
    exact applyAll_equiv c l (applyWrite_comm c files y x hd)
  | trans p1 _ ih1 ih2 => exact (ih1 files h).trans (ih2 files (pairwise_perm c p1 h))

/-- the write requests of a batch plan (`planBatch`'s output) -/
def reqsOf (t : Topic) (plan : List (Blk × Nat × Pay)) : List WriteReq :=
  plan.map fun (b, o, pay) => ⟨b.file, { off := b.off + o, topic := t, pay := pay }⟩

/-- the left side is the fold that `writerBatchWriteCore` (on success) and `crashBatchDisk` run over a plan -/
theorem batch_writes_are_applyAll (c : Cfg) (t : Topic) (plan : List (Blk × Nat × Pay)) (files : List FileSt) :
    plan.foldl (fun fs (x : Blk × Nat × Pay) => writeCell c fs x.1 x.2.1 t x.2.2) files = applyAll c files (reqsOf t plan) := by
  unfold applyAll reqsOf
  rw [List.foldl_map]
  rfl

/-- the requests of entries planned back to back into the block at `base`, from in-block offset `o`: each starts
where the one before it ends -/
def layout (c : Cfg) (f base : Nat) (t : Topic) : List Pay → Nat → List WriteReq
  | [], _ => []
  | pay :: r, o => ⟨f, { off := base + o, topic := t, pay := pay }⟩ :: layout c f base t r (o + c.metaSz + pay.len)

theorem layout_lo_ge (c : Cfg) (f base : Nat) (t : Topic) (ps : List Pay) (o : Nat) :
    ∀ v ∈ layout c f base t ps o, base + o ≤ v.lo := by
  induction ps generalizing o with
  | nil => intro v hv; cases hv
  | cons pay r ih =>
    intro v hv
    rcases List.mem_cons.mp hv with e | e
    · subst e; exact Nat.le_refl _
    · have := ih _ v e
      omega

/-- stated of `layout`, which nothing ties to `planBatch` -/
theorem C16_plan_ranges_disjoint_in_block (c : Cfg) (f base : Nat) (t : Topic) (ps : List Pay) (o : Nat) :
    PairwiseDisj c (layout c f base t ps o) := by
  induction ps generalizing o with
  | nil => trivial
  | cons pay r ih =>
    refine ⟨?_, ih _⟩
    intro v hv
    have := layout_lo_ge c f base t r _ v hv
    right; left
    show base + o + c.metaSz + pay.len ≤ v.lo
    omega

/-! Non-vacuity: three writes into two blocks of one file, completed in two different orders. -/
def w1 : WriteReq := ⟨0, { off := 0, topic := ⟨0, false⟩, pay := ⟨100, 1⟩ }⟩
def w2 : WriteReq := ⟨0, { off := 356, topic := ⟨0, false⟩, pay := ⟨50, 2⟩ }⟩
def w3 : WriteReq := ⟨0, { off := 4096, topic := ⟨0, false⟩, pay := ⟨7, 3⟩ }⟩
def disk0 : List FileSt := [{ dir := 0, name := 1, cells := [], present := true }]

theorem demo_disj : PairwiseDisj smallCfg [w1, w2, w3] := by
  refine ⟨?_, ?_, ?_, trivial⟩
  · intro v hv
    simp only [List.mem_cons, List.mem_nil_iff, or_false] at hv
    rcases hv with rfl | rfl <;> (right; left; decide)
  · intro v hv
    simp only [List.mem_cons, List.mem_nil_iff, or_false] at hv
    subst hv; right; left; decide
  · intro v hv; cases hv

example : Equiv (applyAll smallCfg disk0 [w1, w2, w3]) (applyAll smallCfg disk0 [w3, w1, w2]) :=
  C16_completion_order_irrelevant smallCfg disk0 _ _
    (((List.Perm.swap w3 w2 []).cons w1).trans (List.Perm.swap w3 w1 [w2])) demo_disj

end WalrusVerif.Props.C16
