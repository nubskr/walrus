import WalrusVerif.Lemmas.SpecLemmas
import WalrusVerif.Lemmas.AEngStepR
/-!
# C15 — topic entry counts equal appended minus consumed entries

Statement: at any quiescent point, the reported entry count of every topic equals the number of its
successfully appended entries not yet returned by a consuming read.  In StrictlyAtOnce mode this
still holds after a restart, counting only durable consumption; peeks and offset-addressed reads
never change the count.

`C15_inprocess` is the first and third sentence at full strength for one process lifetime: after
**any** operation sequence (any topics, rejected operations interleaved, both read APIs, peeks,
offset reads), `count` reports exactly (entries of successful appends) − (entries returned by
consuming reads), where both numbers are read off the history of operations and their outputs —
no model-internal quantity appears in the statement.  The `-` is that of `Nat` and truncates; that consumed ≤
appended is no part of the statements: on the engine's histories it follows from C01 (`accepts` lets the consumed
index advance only up to the length of the log) and is not a lemma here.  `C15_with_restarts` is the second sentence
on the restart model `AEngR` (clean restarts, StrictlyAtOnce): the same equation with restart events
anywhere in the history.  That `AEngR` describes what the code recovers and recounts is not proved
here: it is the correspondence/oracle run on restart histories (model `Eng`, recovery and count
rebuild), under the recovery guards of C06; see DESIGN.md §0.2 and §6 C06.
-/
namespace WalrusVerif.Props.C15
open WalrusVerif WalrusVerif.Eng WalrusVerif.AEng

/-- a history accepted from the initial state ends with `count t`: the output `o` of that `count` is
appended − consumed, counted over the history before it.  `outs` is arbitrary: the conclusion has
the shape of the goals below after `runFrom_append`, where `o` is the last output. -/
theorem count_last (t : Topic) (h : List (AOp × Out)) (outs : List Out) (o : Out)
    (ha : accepts Spec.init (h ++ [(.count t, o)])) :
    ∃ n, (outs ++ [o]).getLast? = some (.num n) ∧ n = appendedCount t h - consumedCount t h := by
  rw [accepts_count t o h _ ha]
  exact ⟨appendedCount t h - consumedCount t h, by simp [Spec.init], rfl⟩

/-- **C15 (in-process).** Query the count of `t` after any operation sequence: the answer is
appended − consumed, computed from the history itself.  (The proof does not use `hl`, as in
`C01_refines`.) -/
theorem C15_inprocess (c : Cfg) (hc : CfgOK c) (ops : List AOp) (hl : ∀ op ∈ ops, op.WithinLimits c) (t : Topic) :
    ∃ n, (AEng.run c (ops ++ [.count t])).getLast? = some (.num n) ∧
      n = appendedCount t (ops.zip (AEng.run c ops)) - consumedCount t (ops.zip (AEng.run c ops)) := by
  have hacc := run_accepts c hc (ops ++ [.count t])
  unfold AEng.run at hacc ⊢
  rw [runFrom_append] at hacc ⊢
  rw [List.zip_append (runFrom_length c {} ops).symm] at hacc
  exact count_last t _ _ _ hacc

/-- peeks and offset-addressed reads are not counted by `consumedCount` (its definition).  That
they do not change the count the engine reports is `C15_inprocess`, whose `ops` may hold them
anywhere. -/
theorem C15_peeks_not_counted (t t' : Topic) (m : Nat) (out : Out) (rest : List (AOp × Out)) (req : Nat) (cp : Bool) :
    consumedCount t ((.next t' false, out) :: rest) = consumedCount t rest ∧
    consumedCount t ((.bread t' m false none, out) :: rest) = consumedCount t rest ∧
    consumedCount t ((.bread t' m cp (some req), out) :: rest) = consumedCount t rest :=
  ⟨rfl, rfl, by cases cp <;> rfl⟩

def stripR : List (ROp × Out) → List (AOp × Out)
  | [] => []
  | (.restart, _) :: r => stripR r
  | (.op o, out) :: r => (o, out) :: stripR r

theorem stripR_append (a b : List (ROp × Out)) : stripR (a ++ b) = stripR a ++ stripR b := by
  induction a with
  | nil => rfl
  | cons x r ih =>
    obtain ⟨op, out⟩ := x
    cases op <;> simp [stripR, ih]

/-- a history accepted with restarts is accepted without them: a restart changes nothing the specification sees -/
theorem acceptsR_strip (h : List (ROp × Out)) (σ : Spec) (ha : acceptsR σ h) : accepts σ (stripR h) := by
  fun_induction acceptsR σ h with
  -- arms of `acceptsR`: 7, 8, 10 (`next`, cursor `bread`, `count`) demand something of the output; 11 is `False`
  | case1 => trivial
  | case11 => exact ha.elim
  | case7 | case8 | case10 => rename_i ih; exact ⟨ha.1, ih ha.2⟩
  | _ => rename_i ih; exact ih ha

/-- **C15 with restarts (StrictlyAtOnce, clean restarts).** After any history of operations with restart events
anywhere in it (any number), `count` reports exactly (entries of successful appends) - (entries returned by
consuming reads), both read off the history with the restarts taken out: a restart neither forgets appended entries nor
brings consumed ones back.
`friendlyFrom` marks the region in which the restart model describes the code (the correspondence runs compare
only there); the proof needs neither it nor `hl`. -/
theorem C15_with_restarts (c : Cfg) (hc : CfgOK c) (ops : List ROp) (hl : ∀ op ∈ ops, op.WithinLimits c)
    (friendly : friendlyFrom c {} ops = true) (t : Topic) :
    ∃ n, (runR c (ops ++ [.op (.count t)])).getLast? = some (.num n) ∧
      n = appendedCount t (stripR (ops.zip (runR c ops))) - consumedCount t (stripR (ops.zip (runR c ops))) := by
  have hacc := runR_accepts c hc (ops ++ [.op (.count t)])
  unfold runR at hacc ⊢
  rw [runFromR_append] at hacc ⊢
  rw [List.zip_append (runFromR_length c {} ops).symm] at hacc
  have hs := acceptsR_strip _ _ hacc
  rw [stripR_append] at hs
  exact count_last t _ _ _ hs

/-- the restart clause on a concrete history (small geometry): append 3, consume 1, restart, count = 2; consume 2
across a second restart, count = 0 -/
example : runR smallCfg [.op (.batch ⟨0, false⟩ [⟨3000, 1⟩, ⟨2000, 2⟩, ⟨0, 0⟩]), .op (.next ⟨0, false⟩ true), .restart,
    .op (.count ⟨0, false⟩), .op (.next ⟨0, false⟩ true), .restart, .op (.next ⟨0, false⟩ true), .op (.count ⟨0, false⟩)] =
    [.ok, .entry (some ⟨3000, 1⟩), .ok, .num 2, .entry (some ⟨2000, 2⟩), .ok, .entry (some ⟨0, 0⟩), .num 0] := by decide +kernel

/-! Non-vacuity: counts along a concrete history (small geometry), evaluated by the kernel. -/
example : AEng.run smallCfg [.batch ⟨0, false⟩ [⟨3000, 1⟩, ⟨2000, 2⟩, ⟨0, 0⟩], .next ⟨0, false⟩ false, .count ⟨0, false⟩,
    .bread ⟨0, false⟩ 9999 true none, .count ⟨0, false⟩, .bread ⟨0, false⟩ 9999 true (some 0), .count ⟨0, false⟩] =
    [.ok, .entry (some ⟨3000, 1⟩), .num 3, .entries [(⟨3000, 1⟩, 0), (⟨2000, 2⟩, 0), (⟨0, 0⟩, 0)], .num 0,
     .entries [(⟨3000, 1⟩, 0), (⟨2000, 2⟩, 0), (⟨0, 0⟩, 0)], .num 0] := by decide

end WalrusVerif.Props.C15
