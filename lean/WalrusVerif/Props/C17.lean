import WalrusVerif.Lemmas.MarkLemmas
import WalrusVerif.Props.C13
/-!
# C17 — topic clean/dirty markers reflect the latest change, across restarts

Statement: after an append to a topic returns, the topic reports dirty until `mark_topic_clean` is
called, and `mark_topic_clean`/`mark_topic_dirty` set the reported state.  Once any of these calls
has returned, a clean shutdown and reopen reports the same state for that topic.

Model: the storage-level engine model `Eng` (Model/Engine.lean): `TopicCleanTracker::update_state`
(`markClean`), the background persister (`persist`: it may run at any point of a history, or
never), the write-all-on-drop of a clean shutdown (`closeInst`), hydration from the marker file at
open (`openInst`), a process restart (`restart` = clean shutdown + new process), interleaved with
**every** other operation of the engine (appends, batches, both read APIs, counts, reclamation, clock
changes), rejected operations and operations with injected I/O failures included.

`C17_markers` is the full statement: along any history, every `topic_is_clean` query answers exactly
what the latest returned `append`/`batch_append`/`mark_topic_*` call on that topic prescribes
(clean for a topic never touched), no matter how many clean reopen events or process restarts lie in
between and no matter whether the background persister ran.  "Returned" is any answer but `.err .closed` (no
instance open): a call so answered sets no expectation and a query so answered is not constrained, while an append that
fails or is rejected still leaves the topic expected dirty (`append_for_topic` marks it dirty before it writes).
Nothing is claimed of the rest of a history after a `kill` or a `crashAt` (an unclean process death is outside the
property's "clean shutdown") and after an operation addressed to the second instance (`onB`: the statement is about a
process with one instance).
-/
namespace WalrusVerif.Props.C17
open WalrusVerif WalrusVerif.Eng

def upd (e : Topic → Bool) (t : Topic) (b : Bool) : Topic → Bool := fun t' => if t' = t then b else e t'

/-- `markersOK e history`: every `topic_is_clean` answer in the history equals the expected state,
where the expected state starts at `e` and is updated by each returned call -/
def markersOK : (Topic → Bool) → List (Op × Out) → Prop
  | _, [] => True
  | e, (op, out) :: rest =>
    match op, out with
    | .kill, _ => True
    | .crashAt _ _ _ _, _ => True
    | .onB _, _ => True
    | .isClean _, .err .closed => markersOK e rest
    | .isClean t, o => o = .flag (e t) ∧ markersOK e rest
    | .append _ _, .err .closed => markersOK e rest
    | .append t _, _ => markersOK (upd e t false) rest
    | .batch _ _, .err .closed => markersOK e rest
    | .batch t _, _ => markersOK (upd e t false) rest
    | .appendF _ _ _, .err .closed => markersOK e rest
    | .appendF t _ _, _ => markersOK (upd e t false) rest
    | .batchF _ _ _, .err .closed => markersOK e rest
    | .batchF t _ _, _ => markersOK (upd e t false) rest
    | .mark _ _, .err .closed => markersOK e rest
    | .mark t b, _ => markersOK (upd e t b) rest
    | _, _ => markersOK e rest

/-- the operations behind which `markersOK` goes on checking: all but a kill, a crash and a call on the second instance -/
def Tracked (op : Op) : Prop := C13.Plain op ∨ op = .restart

/-- what `markersOK` demands of the answer to one operation -/
def answerOK (e : Topic → Bool) (op : Op) (o : Out) : Prop := ∀ t, op = .isClean t → o = .err .closed ∨ o = .flag (e t)

/-- the expected state after one operation with its answer -/
def expectAfter (e : Topic → Bool) (op : Op) (o : Out) : Topic → Bool :=
  match sets op with
  | some (t, b) => if o = .err .closed then e else upd e t b
  | none => e

theorem expectAfter_closed (e : Topic → Bool) (op : Op) : expectAfter e op (.err .closed) = e := by
  unfold expectAfter; split <;> simp

/-- `markersOK` is a fold of `answerOK` and `expectAfter` -/
theorem markersOK_cons (e : Topic → Bool) (op : Op) (o : Out) (l : List (Op × Out)) :
    markersOK e ((op, o) :: l) ↔ (Tracked op → answerOK e op o ∧ markersOK (expectAfter e op o) l) := by
  cases op with
  | kill | crashAt | onB => simp [markersOK, Tracked, C13.Plain]
  | isClean | append | batch | appendF | batchF | mark =>
    by_cases ho : o = .err .closed
    · subst ho; simp [markersOK, Tracked, C13.Plain, answerOK, expectAfter_closed]
    · simp [markersOK, Tracked, C13.Plain, answerOK, expectAfter, sets, ho]
  | _ => simp [markersOK, Tracked, C13.Plain, answerOK, expectAfter, sets]

/-- single-instance histories: no second instance, and the addressed directory is 0.  `p.inst` may be `none`; that an
open instance is on directory 0 is a conjunct of `MInv` -/
def Single (p : Proc) : Prop := p.curDir = 0 ∧ p.inst2 = none

theorem closeSecond_single (p : Proc) (hs : Single p) : closeSecond p = p := by
  obtain ⟨h1, h2⟩ := hs
  unfold closeSecond closeInst
  cases p
  simp_all

theorem step_single (c : Cfg) {p : Proc} {op : Op} (hop : Tracked op) (hs : Single p) : Single (step c p op).1 := by
  rcases hop with hop | rfl
  · have := C13.C13_other_instance_untouched c p op hop
    exact ⟨this.2.trans hs.1, this.1.trans hs.2⟩
  · rw [show step c p .restart = (restartProc p, .ok) by simp only [step, closeSecond_single p hs]]
    exact ⟨(C13.closeInst_inst2_curDir p).2.trans hs.1, (C13.closeInst_inst2_curDir p).1.trans hs.2⟩

/-- The one real lemma of the file: a tracked step answers as `markersOK` expects and keeps `MInv` for the expectation
after it. -/
theorem step_minv (c : Cfg) {p : Proc} {e : Topic → Bool} {op : Op} (hop : Tracked op) (h : MInv p e) (hs : Single p) :
    answerOK e op (step c p op).2 ∧ MInv (step c p op).1 (expectAfter e op (step c p op).2) := by
  constructor
  · rintro t rfl
    rw [show step c p (.isClean t) = withInst p fun i => (p, i, .flag (reported i t)) from rfl]
    cases hi : p.inst with
    | none => rw [withInst_none _ _ hi]; exact .inl rfl
    | some i => rw [withInst_some _ _ i hi]; exact .inr (congrArg Out.flag (h.reported_eq hi t))
  by_cases hc : IsCall op
  · obtain ⟨f, hf, hfr⟩ := step_call c p hc
    rw [hf]
    cases hi : p.inst with
    | none => rw [withInst_none _ _ hi, expectAfter_closed]; exact h
    | some i =>
      rw [withInst_some _ _ i hi]
      obtain ⟨hside, hmarks, hans⟩ := hfr i
      unfold expectAfter
      cases hset : sets op with
      | none =>
        rw [hset] at hmarks
        exact h.congr (congrArg (·.1) hside) (by rw [hi]; exact congrArg some hmarks)
      | some tb =>
        rw [hset] at hmarks hans
        simp only [if_neg (hans rfl)]
        exact minv_mark hi (congrArg (·.1) hside) rfl hmarks h
  cases op with
  | kill | crashAt | onB => exact hop.elim False.elim nofun
  | append | batch | appendF | batchF | next | bread | count | size | mark | isClean => exact absurd trivial hc
  -- `MInv` reads `p.inst` and `p.dirs` only, which these leave alone
  | clock | ls | trks | reclaim => exact h
  | trk n => simp only [step]; split <;> exact h
  | persist => exact minv_persist p e h
  | close => exact (minv_closeInst p e h).2
  | open_ mode =>
    have hcl := minv_closeInst p e h
    simp only [step, hs.1]
    exact minv_open c _ mode e hcl.1 hcl.2
  | restart =>
    simp only [step, closeSecond_single p hs]
    exact (minv_closeInst p e h).2

theorem runFrom_markersOK (c : Cfg) (ops : List Op) (p : Proc) (e : Topic → Bool) (h : MInv p e) (hs : Single p) :
    markersOK e (ops.zip (runFrom c p ops)) := by
  induction ops generalizing p e with
  | nil => trivial
  | cons op rest ih =>
    rw [runFrom, List.zip_cons_cons, markersOK_cons]
    intro hop
    have := step_minv c hop h hs
    exact ⟨this.1, ih _ _ this.2 (step_single c hop hs)⟩

/-- **C17.**  `run` starts from a fresh process, in which every topic is expected clean. -/
theorem C17_markers (c : Cfg) (ops : List Op) : markersOK (fun _ => true) (ops.zip (run c ops)) := by
  apply runFrom_markersOK
  · unfold MInv
    intro t
    rfl
  · exact ⟨rfl, rfl⟩

/-! Non-vacuity: a history with an append, explicit marks, an immediate restart (no persister pass)
and a reopen; evaluated by the kernel on the model (small geometry). -/
def demo : List Op :=
  [.open_ .strict, .isClean ⟨0, false⟩, .append ⟨0, false⟩ ⟨10, 1⟩, .isClean ⟨0, false⟩, .mark ⟨1, false⟩ false,
   .restart, .open_ .strict, .isClean ⟨0, false⟩, .isClean ⟨1, false⟩, .mark ⟨0, false⟩ true, .persist, .close,
   .open_ .strict, .isClean ⟨0, false⟩, .isClean ⟨1, false⟩, .isClean ⟨2, false⟩]

example : ((run smallCfg demo).filter fun o => match o with | .flag _ => true | _ => false) =
    [.flag true, .flag false, .flag false, .flag false, .flag true, .flag false, .flag true] := by decide +kernel

end WalrusVerif.Props.C17
