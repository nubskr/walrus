import WalrusVerif.Model.Engine
/-!
# C08 — a batch interrupted by a crash is recovered entirely or not at all

Statement: if the process dies while a batch append is in progress, after recovery the topic
contains either all of that batch's entries or none of them.  It never contains a strict, non-empty
subset of them.

**False on this tree** (open finding `batchNotCrashAtomic`): the entries of a batch are independent
positional writes, visibility is gated only in memory (the writer's offset), and recovery accepts
every checksum-valid entry it walks over; there is no commit record.  `C08_counterexample_prefix`
is the witness in the model; corpus/batchNotCrashAtomic.prog replays it on the real engine on every
run (sequential write path of the mmap backend: `_exit` before the second `Block::write`).

Proved instead (crash model of Model/Engine.lean, `crashBatchDisk`):
* `C08_partial_prefix_only` — the part of the write plan that it writes, `if fd then plan else plan.take n`,
  is a *prefix* of the plan (never an arbitrary subset), on both write paths;
* `C08_partial_single_entry_atomic` — of a plan with one entry that part is all or nothing;
* `C08_partial_uring_points` — one evaluated history: on the io_uring path, at the crash points the hook can place
  (before the submission, while looking at the completions) the batch is recovered entirely or not at all.  A
  kernel-level kill between two completed SQEs is not placed by the hook (runtime truth).

The check reports the listed finding (exit 0) and reports anything *worse* than a prefix — or a
prefix on a path where the model says all-or-nothing — as a new violation.
-/
namespace WalrusVerif.Props.C08
open WalrusVerif WalrusVerif.Eng

/-- a fact about the list expression alone: `crashBatchDisk` does not occur -/
theorem C08_partial_prefix_only (plan : List (Blk × Nat × Pay)) (n : Nat) (fd : Bool) :
    ∃ k, (if fd then plan else plan.take n) = plan.take k :=
  if h : fd then ⟨plan.length, by simp [h]⟩ else ⟨n, by simp [h]⟩

/-- … and all or nothing of a plan with one entry; true without `hn` too (`take n` of it is the whole for `n ≥ 1`) -/
theorem C08_partial_single_entry_atomic (plan : List (Blk × Nat × Pay)) (h1 : plan.length = 1) (n : Nat) (fd : Bool)
    (hn : n < plan.length) :
    (if fd then plan else plan.take n) = plan ∨ (if fd then plan else plan.take n) = [] := by
  have : n = 0 := by omega
  subst this
  cases fd <;> simp

/-- io_uring path, crash while the completions are examined: every entry of the batch was written
(the process looks at the completion queue only after all writes were performed): the batch is
recovered entirely; crash before the submission: not at all. (small geometry, kernel-evaluated) -/
theorem C08_partial_uring_points :
    Eng.run smallCfg
      [.clock 1700000000000, .open_ .strict, .append ⟨0, false⟩ ⟨100, 1⟩,
       .crashAt 0 1 true (.batch ⟨0, false⟩ [⟨50, 2⟩, ⟨60, 3⟩, ⟨70, 4⟩]),
       .clock 1700000001000, .open_ .strict, .count ⟨0, false⟩,
       .crashAt 7 0 true (.batch ⟨0, false⟩ [⟨5, 5⟩, ⟨6, 6⟩]),
       .clock 1700000002000, .open_ .strict, .count ⟨0, false⟩] =
    [.ok, .ok, .ok, .crashed, .ok, .ok, .num 4, .crashed, .ok, .ok, .num 4] := by
  decide +kernel

/-- **Open finding `batchNotCrashAtomic`.** A batch of three entries on the sequential write path,
process death before the second write: after recovery the topic holds the earlier entry and the
*first* entry of the batch — a strict, non-empty subset. (small geometry) -/
theorem C08_counterexample_prefix :
    Eng.run smallCfg
      [.clock 1700000000000, .open_ .strict, .append ⟨0, false⟩ ⟨100, 1⟩,
       .crashAt 0 1 false (.batch ⟨0, false⟩ [⟨50, 2⟩, ⟨60, 3⟩, ⟨70, 4⟩]),
       .clock 1700000001000, .open_ .strict, .count ⟨0, false⟩, .bread ⟨0, false⟩ 99999 true none] =
    [.ok, .ok, .ok, .crashed, .ok, .ok, .num 2, .entries [(⟨100, 1⟩, 0), (⟨50, 2⟩, 0)]] := by
  decide +kernel

end WalrusVerif.Props.C08
