import WalrusVerif.Lemmas.AMapLemmas
import WalrusVerif.Lemmas.ParseLemmas
import WalrusVerif.Model.Engine
/-!
# C12 — file reclamation never removes entries that are still unconsumed

Statement: the background reclaimer deletes a WAL file only when every entry stored in it has been
durably consumed by its topic's consumer.  Consequently reclamation never makes an unconsumed entry
unreadable or skipped, in the running process or after a restart, whatever mix of peeks, consuming
reads, empty polls and restarts happened.

**Partial.**  The reclamation decision is the bookkeeping of `allocator.rs`
(`BlockStateTracker` / `FileStateTracker` / `flush_check`), modelled in Model/Alloc.lean and carried
through every operation of the storage-level model `Eng`.  Proved about it:

* `C12_enqueue_only_when_counters_say_so` — `flush_check` queues a file for deletion only if the
  file is fully allocated, no block of it is locked by a writer, and its checkpoint counter has
  reached its block counter;
* `C12_checkpoint_counts_once` — marking a block consumed twice in a row is marking it once (the defect
  repaired by fdf7990: every poll at a block end incremented the counter); not: with other tracker calls in
  between, nor which polls mark;
* `C12_peeks_do_not_mark` — a batch read with checkpoint=false, cursor-based or offset-addressed,
  leaves the trackers and the deletion queue untouched, in every state (batch reads only: a `read_next` with
  checkpoint=false marks every block it finds exhausted on its way, `readNextLoop`);
* `C12_reclaim_deletes_only_queued` — the reclaimer's pass clears the `present` flag of the queued files and of
  no other (nothing about the victims list it returns).

What ties "the counters say so" to "every entry of the file is consumed" — which calls mark which
block at which cursor position, over all histories — is decided by the correspondence: the tracker
tuples of every WAL file (`trks`), the reclaimer's victims (`reclaim`) and the directory listing
(`ls`) of the real engine are compared with the model's after ~14% of the operations of
reclamation-heavy histories (4-block files, three topics, peeks, offset reads, empty polls,
restarts), and the FIFO oracle checks that nothing unconsumed disappears.

False on this tree for the clause "or after a restart": `C12_counterexample_cursorsNotStableAcrossDeletion`
(open finding; corpus/cursorsNotStableAcrossDeletion.prog replays it on the real engine).  A second open finding,
`blockIdCollision`: with two instances in one process the reclaimer deletes a file whose entries are unconsumed
(`Props.C13.C13_counterexample_blockIdCollision`, corpus/blockIdCollision.prog).
-/
namespace WalrusVerif.Props.C12
open WalrusVerif WalrusVerif.Eng

/-- `flush_check` queues a file only if fully allocated, unlocked, and `0 < total ≤ ckpt` -/
theorem C12_enqueue_only_when_counters_say_so (t : Trackers) (f : Nat)
    (h : (t.flushCheck f).pendingDelete ≠ t.pendingDelete) :
    ∃ st, t.files.get? f = some st ∧ st.fully = true ∧ st.locked = 0 ∧ 0 < st.total ∧ st.total ≤ st.ckpt := by
  revert h
  fun_cases Trackers.flushCheck t f with
  | case2 st hg hc =>
    simp only [Bool.and_eq_true, beq_iff_eq, decide_eq_true_eq] at hc
    exact fun _ => ⟨st, hg, hc.1.1.1, hc.1.1.2, hc.1.2, hc.2⟩
  | _ => exact fun h => absurd rfl h

/-- a block counts as consumed once: marking it again right away changes nothing -/
theorem C12_checkpoint_counts_once (t : Trackers) (id : Nat) :
    (t.setCheckpointed id).setCheckpointed id = t.setCheckpointed id := by
  -- bullets: the block is unknown, already marked, or gets marked and stays so, since `updFile` and `flushCheck` keep
  -- the block table (`hb`); the second call then changes nothing
  have hb : ∀ (t : Trackers) f g, ((t.updFile f g).flushCheck f).blocks = t.blocks := by
    intro t f g
    fun_cases Trackers.flushCheck (t.updFile f g) f <;> fun_cases Trackers.updFile t f g <;> rfl
  fun_cases Trackers.setCheckpointed t id <;> unfold Trackers.setCheckpointed
  · next h => rw [h]
  · next h => rw [h]; rfl
  · rw [hb, AMap.get?_insert_self]; rfl

/-- non-consuming batch reads never touch the reclamation bookkeeping -/
theorem C12_peeks_do_not_mark (c : Cfg) (p : Proc) (i : Inst) (t : Topic) (m : Nat) (start : Option Nat) :
    (Eng.batchRead c p i t m false start).1.trk = p.trk := by
  rw [batchRead_peek_proc]

/-- the reclaimer clears the `present` flag of the queued files, keeps every other file's, and empties the queue -/
theorem C12_reclaim_deletes_only_queued (p : Proc) (k : Nat) (fs : FileSt) (h : p.files[k]? = some fs) :
    ((reclaim p).1.files[k]?).map (·.present) =
      some (if p.trk.pendingDelete.eraseDups.contains k then false else fs.present) ∧
    (reclaim p).1.trk.pendingDelete = [] := by
  unfold reclaim
  simp only [List.getElem?_mapIdx, h, Option.map_some]
  refine ⟨?_, trivial⟩
  split <;> rfl

/-- **Open finding `cursorsNotStableAcrossDeletion`.** Five entries fill five blocks (four in the
first file); the consumer reads all five; the first file is fully allocated, unlocked and fully
checkpointed, the reclaimer deletes it — correctly.  Two more entries are appended.  After a restart
the scan numbers the surviving block 1, the persisted tail cursor `(block 5, …)` is not found: the
count is 3 instead of 2 and entry 5 is delivered again.  (`.drop 12`: from `.reclaim` on.) -/
theorem C12_counterexample_cursorsNotStableAcrossDeletion :
    (Eng.run smallCfg
      [.clock 1700000000000, .open_ .strict,
       .append ⟨0, false⟩ ⟨3800, 1⟩, .append ⟨0, false⟩ ⟨3800, 2⟩, .append ⟨0, false⟩ ⟨3800, 3⟩,
       .append ⟨0, false⟩ ⟨3800, 4⟩, .append ⟨0, false⟩ ⟨3800, 5⟩,
       .next ⟨0, false⟩ true, .next ⟨0, false⟩ true, .next ⟨0, false⟩ true, .next ⟨0, false⟩ true, .next ⟨0, false⟩ true,
       .reclaim, .append ⟨0, false⟩ ⟨100, 6⟩, .append ⟨0, false⟩ ⟨100, 7⟩, .count ⟨0, false⟩,
       .restart, .clock 1700000050000, .open_ .strict, .count ⟨0, false⟩, .next ⟨0, false⟩ true]).drop 12 =
    [.names [1700000000000], .ok, .ok, .num 2, .ok, .ok, .ok, .num 3, .entry (some ⟨3800, 5⟩)] := by
  decide +kernel

end WalrusVerif.Props.C12
