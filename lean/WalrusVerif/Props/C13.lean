import WalrusVerif.Lemmas.EngFrame
/-!
# C13 — instances with different namespaces are fully isolated

Statement: two instances in the same process whose namespace keys sanitize differently, or whose data
directories differ, never observe or affect each other.  Neither sees the other's entries, cursors,
entry counts or clean markers, and reclamation decisions made for one never remove or alter the
other's files.

Model: `Proc` holds two instances on directories 0 and 1 (`inst`, `inst2`), one list of files tagged
with their directory, and the process-global state the real code shares between instances: the block
and file trackers, the deletion queue, `LAST_MILLIS`.  `onB op` addresses `op` to the second instance.

**Partial.**  Proved:
* `C13_other_instance_untouched` — an operation addressed to one instance (append, batch, faulted
  append/batch, `read_next`, batch read, counts, markers, the persister's pass, open, close, reclaim,
  listing, clock and tracker queries: every `Op` but `restart`, `kill`, `crashAt` and `onB`) leaves the other
  instance's in-memory state — chains, cursors, writers, index, counts, markers — exactly as it was, in both
  directions.
* `C13_second_instance_does_not_move_the_first` — the same, stated for `onB op` and the first instance.

**False on this tree** for the reclamation clause: `C13_counterexample_blockIdCollision` (open finding):
the block tracker is keyed by block id alone, every instance numbers its blocks from 1, the first
registration of an id wins: instance B's consumption of *its* blocks 1–4 makes instance A's file look
fully consumed; the reclaimer deletes it although A has read nothing; after the next restart A's
acknowledged entries are gone.  corpus/blockIdCollision.prog replays the same program on the real
engine on every run.

Entries, counts and directory contents seen by each instance while both are live are decided by the
correspondence: ~250 histories per quick run in which two instances on two directories, using the
*same* topic names, are driven in one process at random (appends, batches, both read APIs, counts,
tracker tuples and directory listings of both directories, the reclaimer's pass, clean reopen of both,
process restart), each instance with its own FIFO/count oracle.
-/
namespace WalrusVerif.Props.C13
open WalrusVerif WalrusVerif.Eng

/-- everything but `restart`, `kill`, `crashAt` and `onB`: the process-level `clock`, `reclaim`, `persist`, `ls`, `trks`
are `Plain` too.  `restart` and `kill` are not: they end the process and with it the second instance (`restart` closes
it, `kill` drops it) -/
def Plain : Op → Prop
  | .restart => False
  | .kill => False
  | .onB _ => False
  | .crashAt _ _ _ _ => False
  | _ => True

theorem closeInst_inst2_curDir (p : Proc) : (closeInst p).inst2 = p.inst2 ∧ (closeInst p).curDir = p.curDir := by
  unfold closeInst; split <;> exact ⟨rfl, rfl⟩

/-- The `curDir` conjunct (the addressed directory stays what it was) is not part of the isolation property:
`step_single` of Props/C17 needs it. -/
theorem C13_other_instance_untouched (c : Cfg) (p : Proc) (op : Op) (h : Plain op) :
    (step c p op).1.inst2 = p.inst2 ∧ (step c p op).1.curDir = p.curDir := by
  have key : ∀ {q q' : Proc}, q.side = q'.side → q.inst2 = q'.inst2 ∧ q.curDir = q'.curDir :=
    fun hq => ⟨congrArg (·.2.1) hq, congrArg (·.2.2) hq⟩
  by_cases hc : IsCall op
  · obtain ⟨f, hf, hfr⟩ := step_call c p hc
    rw [hf]
    exact key (withInst_side p f fun i => (hfr i).side)
  cases op with
  | restart | kill | onB | crashAt => exact h.elim
  | append | batch | appendF | batchF | next | bread | count | size | mark | isClean => exact absurd trivial hc
  | clock | ls | trks | reclaim => exact ⟨rfl, rfl⟩
  | trk n => simp only [step]; split <;> exact ⟨rfl, rfl⟩
  | close => exact closeInst_inst2_curDir p
  | persist => simp only [step]; fun_cases persistMarkers p <;> exact ⟨rfl, rfl⟩
  -- `openInst` writes neither `inst2` nor `curDir`
  | open_ mode => simp only [step]; unfold openInst; exact closeInst_inst2_curDir p

theorem C13_second_instance_does_not_move_the_first (c : Cfg) (p : Proc) (op : Op) (h : Plain op) :
    (step c p (.onB op)).1.inst = p.inst :=
  (C13_other_instance_untouched c { p with inst := p.inst2, inst2 := p.inst, curDir := 1 } op h).1

/-- **Open finding `blockIdCollision`.** A fills five blocks (its first file becomes fully allocated) and
reads nothing; B fills five blocks of its own and reads them all; the reclaimer deletes A's first file;
after the restart A's count is 1 instead of 5 and only its fifth entry is left. (small geometry) -/
theorem C13_counterexample_blockIdCollision :
    (Eng.run smallCfg
      [.clock 1700000000000, .open_ .strict, .onB (.open_ .strict),
       .append ⟨0, false⟩ ⟨3800, 1⟩, .append ⟨0, false⟩ ⟨3800, 2⟩, .append ⟨0, false⟩ ⟨3800, 3⟩,
       .append ⟨0, false⟩ ⟨3800, 4⟩, .append ⟨0, false⟩ ⟨3800, 5⟩,
       .onB (.append ⟨0, false⟩ ⟨3800, 11⟩), .onB (.append ⟨0, false⟩ ⟨3800, 12⟩), .onB (.append ⟨0, false⟩ ⟨3800, 13⟩),
       .onB (.append ⟨0, false⟩ ⟨3800, 14⟩), .onB (.append ⟨0, false⟩ ⟨3800, 15⟩),
       .onB (.next ⟨0, false⟩ true), .onB (.next ⟨0, false⟩ true), .onB (.next ⟨0, false⟩ true),
       .onB (.next ⟨0, false⟩ true), .onB (.next ⟨0, false⟩ true),
       .reclaim, .count ⟨0, false⟩, .restart, .clock 1700000050000, .open_ .strict, .onB (.open_ .strict),
       .count ⟨0, false⟩, .bread ⟨0, false⟩ 99999 true none]).drop 18 =
    [.names [1700000000000], .num 5, .ok, .ok, .ok, .ok, .num 1, .entries [(⟨3800, 5⟩, 0)]] := by
  decide +kernel

end WalrusVerif.Props.C13
