import WalrusVerif.Lemmas.FnvLemmas
import WalrusVerif.Model.Header
/-!
# C11 — opening damaged WAL state never crashes and never returns corrupt data

Statement: opening a directory whose WAL, cursor or marker files were damaged (bit flips,
truncation, zeroed ranges, stray or leftover temporary files) never panics, aborts, hangs or
performs undefined behaviour.  Reading from the opened instance never returns a payload that was
not appended as an entry of that topic.

What is proved here is the part of the second sentence that is logic: the entry checksum
(`config.rs::checksum64`, FNV-1a 64, constants regenerated by the translator) detects **every**
corruption that is confined to one payload byte — in particular every single bit flip — for
payloads of any length and at any position.  Multi-byte damage is detected up to checksum
collisions, which is stated, not hidden (`C11_detects_or_collides`).

The first sentence is runtime truth (memory safety); its logic part is *which bytes a header decoder
dereferences* (Model/Header.lean): `C11_validated_header_stays_in_buffer` — a header that passes the
validation the code now performs (`rkyv::check_archived_root`, fixes e6ef503/fd40a0b) is decoded without
touching a byte outside the buffer; `C11_encoder_output_is_validated` — every header the engine writes
(any topic name that fits) passes it; `C11_guard_alone_insufficient` — the `meta_len` guard that was the
only check before the fix lets through headers whose decoding reads outside the buffer (the defect:
segfaults/aborts at open, reproduced by the mutation harness on the pinned tree).  That the real
engine never panics, aborts, hangs or returns a foreign payload on damaged directories is decided by
the mutation harness (DESIGN.md 0.2, row C11): engine-written directories with damaged WAL, index and marker files,
each opened in a fresh process that then reads both topics dry through every read API and appends again.
**Partial**: memory safety itself is observed (exit status of the process), not proved.
-/
namespace WalrusVerif.Props.C11
open WalrusVerif WalrusVerif.Fnv

/-- Changing exactly one byte of a payload always changes its checksum. -/
theorem C11_fnv_single_byte (pre post : List UInt8) (b b' : UInt8) (h : b ≠ b') :
    checksum64 (pre ++ b :: post) ≠ checksum64 (pre ++ b' :: post) := by
  intro e
  simp only [checksum64, foldFrom, List.foldl_append, List.foldl_cons] at e
  have := foldFrom_inj post _ _ e
  exact h (step_inj_byte _ b b' this)

/-- Every single bit flip in a payload is detected. -/
theorem C11_bit_flip_detected (pre post : List UInt8) (b : UInt8) (k : Nat) (hk : k < 8) :
    checksum64 (pre ++ (b ^^^ (1 <<< UInt8.ofNat k)) :: post) ≠ checksum64 (pre ++ b :: post) := by
  refine C11_fnv_single_byte _ _ _ _ fun e => ?_
  have h2 := congrArg (b ^^^ ·) e
  simp only [← UInt8.xor_assoc, UInt8.xor_self, UInt8.zero_xor] at h2
  exact (by decide : ∀ k < 8, (1 : UInt8) <<< UInt8.ofNat k ≠ 0) k hk h2

/-- The accepted-payload predicate of `Block::read` / the batch parser: the stored checksum
matches.  A payload different from the appended one is accepted only on a checksum collision.  The statement is
`p ∨ (¬p ∧ q)` with `q` the two hypotheses chained: it holds of any function in place of `checksum64` and says nothing
about FNV; what FNV excludes is in `C11_fnv_single_byte`. -/
theorem C11_detects_or_collides (stored : BitVec 64) (appended returned : List UInt8)
    (hs : stored = checksum64 appended) (hacc : checksum64 returned = stored) :
    returned = appended ∨ (returned ≠ appended ∧ checksum64 returned = checksum64 appended) := by
  by_cases e : returned = appended
  · exact Or.inl e
  · exact Or.inr ⟨e, by rw [hacc, hs]⟩

open WalrusVerif.Header in
theorem C11_validated_header_stays_in_buffer (bufLen : Nat) (r : StrRepr) (h : validated bufLen r = true) :
    ∀ rg ∈ touched bufLen r, inBounds bufLen rg := by
  cases r <;>
    simp only [validated, touched, inBounds, Bool.and_eq_true, decide_eq_true_eq, List.forall_mem_cons,
      List.not_mem_nil, false_imp_iff, implies_true, and_true] at h ⊢ <;>
    unfold rootSize at * <;> omega

open WalrusVerif.Header in
/-- every header the engine writes passes the validation, and satisfies the `meta_len` guard as long as the padded
name and the 32-byte root fit its 254 bytes (a name of at most 216 bytes) -/
theorem C11_encoder_output_is_validated (n : Nat) :
    validated (encoded n).1 (encoded n).2 = true ∧ (pad8 n + rootSize ≤ 254 → guardOK (encoded n).1 = true) := by
  have hc : Consts.PREFIX_META_SIZE - 2 = 254 := by decide
  unfold encoded
  split
  · exact ⟨by simp [validated, rootSize, *], fun _ => rfl⟩
  · have : n ≤ pad8 n := by unfold pad8; omega
    simp only [validated, guardOK, hc, Bool.and_eq_true, decide_eq_true_eq, bne_iff_ne]
    unfold rootSize inlineCap at *
    omega

open WalrusVerif.Header in
/-- the `meta_len` guard alone (the only check before the fix) admits headers whose decoding leaves the
buffer: a 5-byte "archive" (root read at a negative position), and a 40-byte one whose name pointer is wild -/
theorem C11_guard_alone_insufficient :
    (guardOK 5 = true ∧ ¬ ∀ rg ∈ touched 5 (.inline 0), inBounds 5 rg) ∧
    (guardOK 40 = true ∧ ¬ ∀ rg ∈ touched 40 (.outOfLine 200 1000), inBounds 40 rg) := by
  refine ⟨⟨by decide, ?_⟩, ⟨by decide, ?_⟩⟩
  · intro h
    have := h (-27, 5) (by decide)
    revert this; decide
  · intro h
    have := h (1008, 1208) (by decide)
    revert this; decide

/-! Non-vacuity: the model's checksum on concrete bytes (the harness compares the same values
with the real `checksum64`). -/
example : checksum64 [] = 0xcbf29ce484222325#64 := by decide
example : checksum64 [97] = 0xaf63dc4c8601ec8c#64 := by decide
example : checksum64 [97, 98] ≠ checksum64 [97, 99] := C11_fnv_single_byte [97] [] 98 99 (by decide)

end WalrusVerif.Props.C11
