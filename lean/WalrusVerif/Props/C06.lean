import WalrusVerif.Lemmas.LayoutLemmas
import WalrusVerif.Lemmas.AEngStepR
import WalrusVerif.Props.C01
/-!
# C06 — restarting an instance is invisible to producers and consumers

Statement: if an instance is shut down cleanly (all appends flushed) and reopened on the same
directory any number of times, consumers observe exactly the entry stream, order, remaining entries
and counts they would have observed without the restarts.  For StrictlyAtOnce consumers this means
no entry is lost, redelivered or reordered.  This holds for any payload sizes and for any wall-clock
behaviour between runs.

**Partial.**  Two layers of theorems; no theorem connects them.

*Entry level* (`AEngR` = `AEng` + clean restart, Model/AEngR.lean; a restart is `reopenTopic`):

* `C06_restarts_invisible` — a history of appends, batch appends, consuming reads, peeks, offset reads and counts with
  **any number of restart events at any positions** is a history of the FIFO specification in which a restart is a
  no-op (`acceptsR`).  StrictlyAtOnce, any payload sizes including empty and multi-block, any geometry.
* `C06_next_after_restart`, `C06_batch_after_restart` — in every state that satisfies `TInv`, `read_next` after a
  restart returns the entry it would have returned without it, and a batch read a non-empty prefix of the same pending
  entries (possibly of another length: the former active block is now sealed).
* `C06_restart_keeps_topic` — one restart keeps each topic's log, consumed index and count.

*Storage level* (`Eng`: a WAL file is a list of cells; `scanFile` and `walkBlock` are the unit scan and the entry
walk of `startup_chore`), proved without reference to the entry-level model:

* `C06_walk_recovers_laid_block`, `C06_scan_recovers_laid_file` — in a file that is `FileLaid` the scan registers exactly
  the blocks laid out, in file order, and stops; `C06_recovered_chains` — the reader chains this leaves.
* `diskInv_append`, `diskInv_batch` — a friendly append or batch (ordinary topic name, every entry fits one unit, room
  in the file, the batch non-empty and within the limits) succeeds, keeps `DiskInv` and adds exactly its entries, in
  order, to its topic; `fileLaid_of_layout` — a file that `DiskInv` describes is `FileLaid`.
* `C06_friendly_programs_are_recovered` — from `DiskInv` with the empty layout, after any `Eng.step` program of such
  appends and batches, with reads of both APIs and counts anywhere in it, the scan registers blocks that hold, topic by
  topic and in order, exactly the appended entries; `C06_friendly_append_programs_are_recovered` — its case of appends
  only; `C06_friendly_appends_are_recovered` — the same for `appendAll`, which is no `Eng.step` program.

What is **not** proved:

* the start and the fuel of the end-to-end theorems: `DiskInv .. []` is a hypothesis (an `example` below shows it of
  `open` on an empty directory for the small geometry; no lemma says that `openInst` yields it), and the statements
  are `∃ L, .. ∧ ∀ fuel, L.length < fuel → ..` without a bound on `L.length`: that the fuel `blocksPerFile + 1` of
  `openInst` suffices is not in them (`GrowsBy.len` has the bound: a block per entry);
* the tie between the layers: that `reopenTopic` is what `Eng.openInst` - the listing and sorting of the files, the
  scan of each, the count rebuild, the index hydration, `fast_forward` - does to a topic's entries.  This tie is made
  by the correspondence run only: `Eng` and the real engine are executed on the same restart histories and must agree
  with `AEngR` operation by operation;
* the storage level outside the friendly regime: failed, rejected or rolled-back operations, entries larger than a
  unit, topic names too long for a header, a file that fills up (roll-over, several files), injected faults, crashes
  (one case: `C07_friendly_appends_survive_crash_in_append`);
* and the correspondence run covers only histories on which no trigger of an open recovery finding has fired:
  `friendlyFrom` (no allocated-but-empty block at a restart: `emptyBlockAllocated`, `scanStopsAtEmptyBlock`), a
  wall clock that does not step back across a restart (`clockRegressionReordersFiles`), no entry larger than
  `MAX_ALLOC` (`sealThenAllocFail`, closed in the repository by commit 843acde).  Those regions are known findings
  with witnesses in corpus/ (a further one, `cursorsNotStableAcrossDeletion`, needs a file deletion before the restart;
  `ROp` has no such operation); the third sentence of the statement ("any wall-clock behaviour") is false on this
  tree.  AtLeastOnce restarts (the consumer resumes at its last persisted position) are decided by the oracle on the
  implementation.
-/
namespace WalrusVerif.Props.C06
open WalrusVerif WalrusVerif.Eng WalrusVerif.AEng

/-- **C06 (StrictlyAtOnce, friendly histories).**  The proof (`runR_accepts`) uses neither `hl` nor `friendlyFrom`.
`friendlyFrom` is in the statement because it marks the histories on which the restart model `AEngR` is known to describe
the code (no trigger of an open recovery finding fires): it bounds what the theorem says about walrus, not what is true
of the model. -/
theorem C06_restarts_invisible (c : Cfg) (hc : CfgOK c) (ops : List ROp) (hl : ∀ op ∈ ops, op.WithinLimits c)
    (_friendly : friendlyFrom c {} ops = true) :
    acceptsR Spec.init (ops.zip (runR c ops)) :=
  runR_accepts c hc ops

theorem C06_restart_keeps_topic (c : Cfg) (n : Nat) (a : ATopic) (k : Nat) (h : TInv c n a k) :
    log (reopenTopic c a) = log a ∧ (reopenTopic c a).count = a.count ∧ TInv c n (reopenTopic c a) k :=
  let r := tinv_reopenTopic c n a k h
  ⟨r.2.1, r.2.2, r.1⟩

theorem C06_next_after_restart (c : Cfg) (hc : CfgOK c) (n : Nat) (a : ATopic) (k : Nat) (h : TInv c n a k) (cp : Bool) :
    (readNext c (reopenTopic c a) cp).2 = (readNext c a cp).2 := by
  have r := tinv_reopenTopic c n a k h
  rw [(readNext_spec c hc.meta_pos cp n _ k r.1).1, (readNext_spec c hc.meta_pos cp n a k h).1, r.2.1]

theorem C06_batch_after_restart (c : Cfg) (hc : CfgOK c) (n : Nat) (a : ATopic) (k : Nat) (h : TInv c n a k)
    (maxB : Nat) (cp : Bool) :
    (∃ m, (batchRead c (reopenTopic c a) maxB cp).2 = (((log a).drop k).take m).map (·, 0)) ∧
      ((batchRead c (reopenTopic c a) maxB cp).2 = [] → k = (log a).length) := by
  have r := tinv_reopenTopic c n a k h
  have := Props.C01.C01_batch_is_prefix c hc n _ k r.1 maxB cp
  rw [r.2.1] at this
  exact this

/-! Non-vacuity: a history that rotates a block, restarts with the cursor in the (former) active
block, restarts again, and drains; evaluated by the kernel (small geometry). -/
def demo : List ROp :=
  [.op (.append ⟨0, false⟩ ⟨3000, 1⟩), .op (.batch ⟨0, false⟩ [⟨100, 2⟩, ⟨0, 0⟩, ⟨1200, 3⟩]),
   .op (.next ⟨0, false⟩ true), .op (.next ⟨0, false⟩ true), .restart, .op (.count ⟨0, false⟩),
   .op (.next ⟨0, false⟩ true), .op (.append ⟨0, false⟩ ⟨5, 4⟩), .restart, .restart,
   .op (.bread ⟨0, false⟩ 99999 true none), .op (.next ⟨0, false⟩ true), .op (.count ⟨0, false⟩)]

example : runR smallCfg demo =
    [.ok, .ok, .entry (some ⟨3000, 1⟩), .entry (some ⟨100, 2⟩), .ok, .num 2, .entry (some ⟨0, 0⟩), .ok, .ok, .ok,
     .entries [(⟨1200, 3⟩, 0), (⟨5, 4⟩, 0)], .entry none, .num 0] := by decide +kernel
example : friendlyFrom smallCfg {} demo = true := by decide +kernel

/-- the entries `es` are found on disk as cells at consecutive positions starting at offset `o` -/
def Laid (c : Cfg) (cells : List Cell) : Nat → List Pay → Prop
  | _, [] => True
  | o, p :: r => (∃ x, cellAt cells o = some x ∧ x.pay = p) ∧ Laid c cells (o + c.metaSz + p.len) r

def totalRaw (c : Cfg) (es : List Pay) : Nat := (es.map fun p => c.metaSz + p.len).sum

theorem totalRaw_cons (c : Cfg) (p : Pay) (r : List Pay) : totalRaw c (p :: r) = c.metaSz + p.len + totalRaw c r := rfl

/-- Whatever else the file holds.  (The hypothesis `hm` is not used.) -/
theorem C06_walk_recovers_laid_block (c : Cfg) (hm : 0 < c.metaSz) (cells : List Cell) (base lim : Nat) (es : List Pay) :
    ∀ (used n fuel : Nat), Laid c cells (base + used) es → used + totalRaw c es ≤ lim →
      (cellAt cells (base + used + totalRaw c es) = none ∨ used + totalRaw c es + c.metaSz > lim) →
      es.length < fuel →
      walkBlock c cells base lim fuel used n = (used + totalRaw c es, n + es.length) := by
  induction es with
  | nil =>
    intro used n fuel _ _ hend hf
    cases fuel with
    | zero => cases hf
    | succ k =>
    unfold walkBlock
    rcases hend with hend | hend
    · rw [show cellAt cells (base + used) = none from hend]; rfl
    · split
      · rfl
      · exact if_pos (Nat.lt_of_lt_of_le hend (Nat.le_add_right _ _))
  | cons p r ih =>
    intro used n fuel ⟨⟨x, hx, hp⟩, hrest⟩ hfit hend hf
    cases fuel with
    | zero => cases hf
    | succ k =>
    subst hp
    simp only [totalRaw_cons, ← Nat.add_assoc] at hfit hend ⊢
    have h1 : ¬ used + c.metaSz + x.pay.len > lim := Nat.not_lt.mpr (Nat.le_trans (Nat.le_add_right _ _) hfit)
    unfold walkBlock
    rw [hx]
    simp only [h1, if_false]
    split
    · -- no room for another header: nothing can follow
      rename_i h2
      cases r with
      | nil => rfl
      | cons q r' =>
        simp only [totalRaw_cons, ← Nat.add_assoc] at hfit
        exact absurd (Nat.le_trans (Nat.le_trans (Nat.le_add_right _ _) (Nat.le_add_right _ _)) hfit) (Nat.not_le.mpr h2)
    · rw [ih _ _ k (by simpa only [← Nat.add_assoc] using hrest) hfit (by simpa only [← Nat.add_assoc] using hend)
        (Nat.lt_of_succ_lt_succ hf)]
      simp only [List.length_cons, Nat.add_assoc, Nat.add_comm 1]

/-- a block as it lies in a file: where it starts, whose it is, what was written into it (at least one entry) -/
structure LBlock where
  off : Nat
  topic : Topic
  first : Pay
  rest : List Pay

def LBlock.es (b : LBlock) : List Pay := b.first :: b.rest
/-- the limit recovery derives for the block: from its first entry -/
def LBlock.lim (c : Cfg) (b : LBlock) : Nat := blockLimitOf c ⟨b.off, b.topic, b.first⟩

/-- what recovering one block does to the scan state -/
def blockStep (c : Cfg) (f : Nat) (s : ScanSt) (b : LBlock) : ScanSt :=
  { nextId := s.nextId + 1,
    trk := (s.trk.registerBlock s.nextId f).addBlockToFileState f,
    inst := appendBlockToChain s.inst b.topic
      { id := s.nextId, file := f, off := b.off, limit := b.lim c, used := totalRaw c b.es },
    perTopic := s.perTopic.insert b.topic (((s.perTopic.get? b.topic).getD []) ++ [b.es.length]) }

/-- the blocks `bs` lie back to back in the file from offset `off` (each sized by its first entry, its entries back
to back from its start and followed by an unwritten position or too little room for a header), and what follows
them reads as unallocated space (or the file ends) -/
def FileLaid (c : Cfg) (cells : List Cell) : Nat → List LBlock → Prop
  | off, [] => off + c.blockSize ≤ c.fileSize → unitKind c cells off = .zero
  | off, b :: r =>
    b.off = off ∧ off + c.blockSize ≤ c.fileSize ∧ b.lim c ≤ c.fileSize - off ∧
    (∃ x, cellAt cells off = some x ∧ x.pay = b.first ∧ x.topic = b.topic) ∧
    Laid c cells off b.es ∧ totalRaw c b.es ≤ b.lim c ∧
    (cellAt cells (off + totalRaw c b.es) = none ∨ totalRaw c b.es + c.metaSz > b.lim c) ∧
    FileLaid c cells (off + b.lim c) r

theorem length_mul_metaSz_le_totalRaw (c : Cfg) (es : List Pay) : es.length * c.metaSz ≤ totalRaw c es := by
  induction es with
  | nil => exact Nat.le_of_eq (Nat.zero_mul _)
  | cons p r ih =>
    rw [totalRaw_cons, List.length_cons, Nat.succ_mul, Nat.add_comm]
    exact Nat.add_le_add (Nat.le_add_right _ _) ih

theorem first_le_total (c : Cfg) (b : LBlock) : c.metaSz + b.first.len ≤ totalRaw c b.es := Nat.le_add_right _ _

/-- That friendly writer histories produce such files: `fileLaid_of_layout` and the `C06_friendly_*` theorems below. -/
theorem C06_scan_recovers_laid_file (c : Cfg) (hm : 0 < c.metaSz) (f : Nat) (cells : List Cell) (bs : List LBlock) :
    ∀ (off fuel : Nat) (s : ScanSt), FileLaid c cells off bs → bs.length < fuel →
      scanFile c f cells fuel off s = bs.foldl (blockStep c f) s := by
  induction bs with
  | nil =>
    intro off fuel s hl hf
    cases fuel with
    | zero => cases hf
    | succ k =>
      unfold scanFile
      by_cases h : off + c.blockSize ≤ c.fileSize
      · rw [if_pos h, hl h]; rfl
      · exact if_neg h
  | cons b r ih =>
    intro off fuel s ⟨hoff, hroom, hlim, ⟨x, hx, hxp, hxt⟩, hlaid, hfit, hend, hrest⟩ hf
    cases fuel with
    | zero => cases hf
    | succ k =>
      have hk : unitKind c cells off = .header x := by unfold unitKind; rw [hx]
      have hxlim : blockLimitOf c x = b.lim c := by unfold LBlock.lim blockLimitOf; rw [hxp]
      -- every entry takes at least a header, so the fuel of the walk suffices
      have hlen : b.es.length < b.lim c / c.metaSz + 1 :=
        Nat.lt_succ_of_le ((Nat.le_div_iff_mul_le hm).mpr (Nat.le_trans (length_mul_metaSz_le_totalRaw c b.es) hfit))
      have hw := C06_walk_recovers_laid_block c hm cells off (b.lim c) b.es 0 0 _ hlaid (by rwa [Nat.zero_add])
        (by rwa [Nat.zero_add]) hlen
      have hpos : totalRaw c b.es ≠ 0 :=
        Nat.ne_of_gt (Nat.lt_of_lt_of_le (Nat.add_pos_left hm _) (first_le_total c b))
      rw [Nat.zero_add, Nat.zero_add] at hw
      unfold scanFile
      simp only [hroom, if_true, hk, hxlim, Nat.not_lt.mpr hlim, if_false, hw, hpos]
      rw [ih (off + b.lim c) k _ hrest (Nat.lt_of_succ_lt_succ hf)]
      simp only [List.foldl_cons, blockStep, hxt, hoff]

/-- a file with a one-unit block of three entries (topic 0) and a two-unit block opened by an oversized entry
(topic 1): the hypothesis of `C06_scan_recovers_laid_file` is met … -/
def cellsEx : List Cell :=
  [⟨0, ⟨0, false⟩, ⟨100, 1⟩⟩, ⟨356, ⟨0, false⟩, ⟨0, 0⟩⟩, ⟨612, ⟨0, false⟩, ⟨1000, 3⟩⟩,
   ⟨4096, ⟨1, false⟩, ⟨5000, 4⟩⟩, ⟨4096 + 5256, ⟨1, false⟩, ⟨10, 5⟩⟩]

example : FileLaid smallCfg cellsEx 0
    [⟨0, ⟨0, false⟩, ⟨100, 1⟩, [⟨0, 0⟩, ⟨1000, 3⟩]⟩, ⟨4096, ⟨1, false⟩, ⟨5000, 4⟩, [⟨10, 5⟩]⟩] := by
  refine ⟨rfl, by decide +kernel, by decide +kernel, ⟨⟨0, ⟨0, false⟩, ⟨100, 1⟩⟩, by decide +kernel, rfl, rfl⟩,
    ⟨⟨⟨0, ⟨0, false⟩, ⟨100, 1⟩⟩, by decide +kernel, rfl⟩, ⟨⟨356, ⟨0, false⟩, ⟨0, 0⟩⟩, by decide +kernel, rfl⟩,
      ⟨⟨612, ⟨0, false⟩, ⟨1000, 3⟩⟩, by decide +kernel, rfl⟩, trivial⟩,
    by decide +kernel, Or.inl (by decide +kernel), ?_⟩
  refine ⟨rfl, by decide +kernel, by decide +kernel, ⟨⟨4096, ⟨1, false⟩, ⟨5000, 4⟩⟩, by decide +kernel, rfl, rfl⟩,
    ⟨⟨⟨4096, ⟨1, false⟩, ⟨5000, 4⟩⟩, by decide +kernel, rfl⟩, ⟨⟨4096 + 5256, ⟨1, false⟩, ⟨10, 5⟩⟩, by decide +kernel, rfl⟩, trivial⟩,
    by decide +kernel, Or.inl (by decide +kernel), ?_⟩
  intro _
  decide +kernel

/-- … and the scan registers both blocks: three entries for topic 0, two for topic 1, next id 3 -/
example : (scanFile smallCfg 0 cellsEx 5 0 { trk := {}, inst := { dir := 0, mode := .strict } }).perTopic =
      [(⟨1, false⟩, [2]), (⟨0, false⟩, [3])] ∧
    (scanFile smallCfg 0 cellsEx 5 0 { trk := {}, inst := { dir := 0, mode := .strict } }).nextId = 3 := by
  decide +kernel

/-- the entries `es` of topic `t` lie back to back from offset `o`: `Laid` with the topic and the offset of each cell
fixed.  The walk reads neither (hence `Laid`, for any file); the layout invariant must say whose the entries are -/
def LaidT (c : Cfg) (cells : List Cell) (t : Topic) : Nat → List Pay → Prop
  | _, [] => True
  | o, p :: r => cellAt cells o = some ⟨o, t, p⟩ ∧ LaidT c cells t (o + c.metaSz + p.len) r

theorem laidT_laid (c : Cfg) (cells : List Cell) (t : Topic) (es : List Pay) :
    ∀ o, LaidT c cells t o es → Laid c cells o es := by
  induction es with
  | nil => intro o _; trivial
  | cons p r ih => intro o h; exact ⟨⟨_, h.1, rfl⟩, ih _ h.2⟩

theorem laidT_mono (c : Cfg) (cells : List Cell) (x : Cell) (t : Topic) (es : List Pay) :
    ∀ o, LaidT c cells t o es → LaidT c (cells ++ [x]) t o es := by
  induction es with
  | nil => intro o _; trivial
  | cons p r ih => intro o h; exact ⟨cellAt_append_some _ _ _ _ h.1, ih _ h.2⟩

theorem totalRaw_snoc (c : Cfg) (a : List Pay) (p : Pay) : totalRaw c (a ++ [p]) = totalRaw c a + (c.metaSz + p.len) := by
  simp [totalRaw]

theorem laidT_snoc (c : Cfg) (cells : List Cell) (t : Topic) (es : List Pay) (p : Pay) :
    ∀ o, LaidT c cells t o es → cellAt cells (o + totalRaw c es) = some ⟨o + totalRaw c es, t, p⟩ →
      LaidT c cells t o (es ++ [p]) := by
  induction es with
  | nil => intro o _ h; exact ⟨h, trivial⟩
  | cons q r ih =>
    intro o h hc
    rw [totalRaw_cons, ← Nat.add_assoc, ← Nat.add_assoc] at hc
    exact ⟨h.1, ih _ h.2 hc⟩

/-- blocks of one unit each, back to back from offset `o` -/
def LayBlocks (c : Cfg) (cells : List Cell) : Nat → List LBlock → Prop
  | _, [] => True
  | o, b :: r => b.off = o ∧ LaidT c cells b.topic o b.es ∧ totalRaw c b.es ≤ c.blockSize ∧
      LayBlocks c cells (o + c.blockSize) r

/-- every cell of the file is an entry of one of the blocks -/
def NoStray (c : Cfg) (cells : List Cell) (L : List LBlock) : Prop :=
  ∀ x ∈ cells, ∃ b ∈ L, b.off ≤ x.off ∧ x.off + c.metaSz + x.pay.len ≤ b.off + totalRaw c b.es

theorem layBlocks_mono (c : Cfg) (cells : List Cell) (x : Cell) (L : List LBlock) :
    ∀ o, LayBlocks c cells o L → LayBlocks c (cells ++ [x]) o L := by
  induction L with
  | nil => intro o _; trivial
  | cons b r ih => intro o h; exact ⟨h.1, laidT_mono c cells x _ _ _ h.2.1, h.2.2.1, ih _ h.2.2.2⟩

theorem layBlocks_off (c : Cfg) (cells : List Cell) (L : List LBlock) :
    ∀ o, LayBlocks c cells o L → ∀ b ∈ L, o ≤ b.off ∧ b.off + c.blockSize ≤ o + L.length * c.blockSize ∧
      totalRaw c b.es ≤ c.blockSize := by
  induction L with
  | nil => intro o _ b hb; cases hb
  | cons a r ih =>
    intro o ⟨ho, _, htot, hr⟩ b hb
    rw [List.length_cons, Nat.succ_mul, Nat.add_comm (r.length * c.blockSize), ← Nat.add_assoc]
    rcases List.mem_cons.mp hb with rfl | hb
    · exact ⟨Nat.le_of_eq ho.symm, ho ▸ Nat.le_add_right _ _, htot⟩
    · obtain ⟨h1, h2, h3⟩ := ih _ hr b hb
      exact ⟨Nat.le_trans (Nat.le_add_right _ _) h1, h2, h3⟩

theorem layBlocks_append (c : Cfg) (cells : List Cell) (A B : List LBlock) :
    ∀ o, LayBlocks c cells o (A ++ B) ↔ LayBlocks c cells o A ∧ LayBlocks c cells (o + A.length * c.blockSize) B := by
  induction A with
  | nil => intro o; simp [LayBlocks]
  | cons a r ih =>
    intro o
    simp only [List.cons_append, LayBlocks, List.length_cons, ih, Nat.succ_mul, and_assoc, Nat.add_assoc,
      Nat.add_comm (r.length * c.blockSize)]

theorem layBlocks_mid {c : Cfg} {cells : List Cell} {pre post : List LBlock} {b : LBlock} :
    LayBlocks c cells 0 (pre ++ b :: post) ↔
      LayBlocks c cells 0 pre ∧ b.off = pre.length * c.blockSize ∧ LaidT c cells b.topic b.off b.es ∧
        totalRaw c b.es ≤ c.blockSize ∧ LayBlocks c cells (b.off + c.blockSize) post := by
  rw [layBlocks_append, Nat.zero_add]
  constructor
  · intro ⟨h1, h2, h3, h4, h5⟩; exact ⟨h1, h2, h2 ▸ h3, h4, h2 ▸ h5⟩
  · intro ⟨h1, h2, h3, h4, h5⟩; exact ⟨h1, h2, h2 ▸ h3, h4, h2 ▸ h5⟩

theorem layBlocks_end {c : Cfg} {cells : List Cell} {L : List LBlock} (hl : LayBlocks c cells 0 L) :
    ∀ b ∈ L, b.off + totalRaw c b.es ≤ L.length * c.blockSize := by
  intro b hb
  have := layBlocks_off c cells L 0 hl b hb
  omega

theorem layBlocks_around {c : Cfg} {cells : List Cell} {pre post : List LBlock} {b : LBlock}
    (hl : LayBlocks c cells 0 (pre ++ b :: post)) :
    (∀ x ∈ pre, x.off + totalRaw c x.es ≤ b.off) ∧ ∀ x ∈ post, b.off + c.blockSize ≤ x.off := by
  obtain ⟨hpre, hboff, -, -, hpost⟩ := layBlocks_mid.mp hl
  exact ⟨hboff ▸ layBlocks_end hpre, fun x hx => (layBlocks_off c cells post _ hpost x hx).1⟩

theorem mem_update {pre post : List LBlock} {b x : LBlock} (b' : LBlock) (hx : x ∈ pre ++ b :: post) :
    x = b ∨ x ∈ pre ++ b' :: post := by
  rcases List.mem_append.mp hx with hx | hx
  · exact .inr (List.mem_append_left _ hx)
  · rcases List.mem_cons.mp hx with rfl | hx
    · exact .inl rfl
    · exact .inr (List.mem_append_right _ (List.mem_cons_of_mem _ hx))

theorem NoStray.free {c : Cfg} {cells : List Cell} {L : List LBlock} (hs : NoStray c cells L) {lo hi : Nat}
    (h : ∀ b ∈ L, b.off + totalRaw c b.es ≤ lo ∨ hi ≤ b.off) : Free c cells lo hi := by
  intro y hy
  obtain ⟨b, hb, h1, h2⟩ := hs y hy
  exact (h b hb).imp (Nat.le_trans h2) (fun h => Nat.le_trans h h1)

theorem free_end {c : Cfg} {cells : List Cell} {L : List LBlock} (hl : LayBlocks c cells 0 L) (hs : NoStray c cells L)
    (hi : Nat) : Free c cells (L.length * c.blockSize) hi :=
  hs.free fun b hb => .inl (layBlocks_end hl b hb)

theorem free_behind {c : Cfg} {cells : List Cell} {pre post : List LBlock} {b : LBlock}
    (hl : LayBlocks c cells 0 (pre ++ b :: post)) (hs : NoStray c cells (pre ++ b :: post)) {n : Nat}
    (hfit : totalRaw c b.es + n ≤ c.blockSize) :
    Free c cells (b.off + totalRaw c b.es) (b.off + totalRaw c b.es + n) := by
  obtain ⟨hbelow, habove⟩ := layBlocks_around hl
  refine hs.free fun x hx => ?_
  rcases List.mem_append.mp hx with hx | hx
  · exact .inl (Nat.le_trans (hbelow x hx) (Nat.le_add_right ..))
  · rcases List.mem_cons.mp hx with rfl | hx
    · exact .inl (Nat.le_refl _)
    · rw [Nat.add_assoc]
      exact .inr (Nat.le_trans (Nat.add_le_add_left hfit _) (habove x hx))

theorem layout_new_block (c : Cfg) (hm : 0 < c.metaSz) (cells : List Cell) (L : List LBlock) (t : Topic) (p : Pay)
    (hl : LayBlocks c cells 0 L) (hs : NoStray c cells L) (hfit : c.metaSz + p.len ≤ c.blockSize) :
    let o := L.length * c.blockSize
    clobber c cells o (o + c.metaSz + p.len) = cells ∧
    LayBlocks c (cells ++ [⟨o, t, p⟩]) 0 (L ++ [⟨o, t, p, []⟩]) ∧
    NoStray c (cells ++ [⟨o, t, p⟩]) (L ++ [⟨o, t, p, []⟩]) := by
  intro o
  have hfree := free_end hl hs (o + c.metaSz + p.len)
  refine ⟨hfree.clobber, (layBlocks_append ..).mpr ⟨layBlocks_mono c cells _ L 0 hl, (Nat.zero_add _).symm, ?_, hfit, trivial⟩, ?_⟩
  · rw [Nat.zero_add]
    exact ⟨cellAt_append_new ⟨o, t, p⟩ (hfree.cellAt hm (pos_lt_stop hm ..)), trivial⟩
  · intro y hy
    rcases List.mem_append.mp hy with hy | hy
    · obtain ⟨b, hb, h⟩ := hs y hy
      exact ⟨b, List.mem_append_left _ hb, h⟩
    · rw [List.mem_singleton.mp hy]
      exact ⟨_, List.mem_append_right _ (List.mem_singleton.mpr rfl), Nat.le_refl _, Nat.le_of_eq (Nat.add_assoc ..)⟩

theorem layout_extend_block (c : Cfg) (hm : 0 < c.metaSz) (cells : List Cell) (pre post : List LBlock) (b : LBlock) (p : Pay)
    (hl : LayBlocks c cells 0 (pre ++ b :: post)) (hs : NoStray c cells (pre ++ b :: post))
    (hfit : totalRaw c b.es + (c.metaSz + p.len) ≤ c.blockSize) :
    let o := b.off + totalRaw c b.es
    let b' : LBlock := { b with rest := b.rest ++ [p] }
    clobber c cells o (o + c.metaSz + p.len) = cells ∧
    LayBlocks c (cells ++ [⟨o, b.topic, p⟩]) 0 (pre ++ b' :: post) ∧
    NoStray c (cells ++ [⟨o, b.topic, p⟩]) (pre ++ b' :: post) := by
  intro o b'
  obtain ⟨hpre, hboff, hblaid, -, hpost⟩ := layBlocks_mid.mp hl
  have hfree : Free c cells o (o + c.metaSz + p.len) := Nat.add_assoc .. ▸ free_behind hl hs hfit
  have hes : totalRaw c b'.es = totalRaw c b.es + (c.metaSz + p.len) := totalRaw_snoc c b.es p
  have hend : b'.off + totalRaw c b'.es = o + (c.metaSz + p.len) := by rw [hes]; exact (Nat.add_assoc ..).symm
  refine ⟨hfree.clobber, layBlocks_mid.mpr ⟨layBlocks_mono c cells _ pre 0 hpre, hboff, ?_, hes ▸ hfit,
    layBlocks_mono c cells _ post _ hpost⟩, ?_⟩
  · exact laidT_snoc c _ b.topic b.es p b.off (laidT_mono c cells _ _ _ _ hblaid)
      (cellAt_append_new ⟨o, b.topic, p⟩ (hfree.cellAt hm (pos_lt_stop hm ..)))
  · intro y hy
    rcases List.mem_append.mp hy with hy | hy
    · obtain ⟨b2, hb2, h1, h2⟩ := hs y hy
      rcases mem_update b' hb2 with rfl | hb2
      · exact ⟨b', List.mem_append_cons_self, h1, by rw [hend]; exact Nat.le_trans h2 (Nat.le_add_right ..)⟩
      · exact ⟨b2, hb2, h1, h2⟩
    · rw [List.mem_singleton.mp hy]
      exact ⟨b', List.mem_append_cons_self, Nat.le_add_right _ _, Nat.le_of_eq (by rw [hend, Nat.add_assoc])⟩

theorem room_mono {a b bs fs : Nat} (h : a ≤ b) (hroom : b * bs ≤ fs) : a * bs ≤ fs :=
  Nat.le_trans (Nat.mul_le_mul_right _ h) hroom

/-- (The hypothesis `hb0` is not used.) -/
theorem fileLaid_of_layout (c : Cfg) (h0 : 0 < c.metaSz) (hb0 : 0 < c.blockSize) (cells : List Cell) (rest : List LBlock) :
    ∀ pre, LayBlocks c cells 0 (pre ++ rest) → NoStray c cells (pre ++ rest) →
      (pre.length + rest.length) * c.blockSize ≤ c.fileSize →
      FileLaid c cells (pre.length * c.blockSize) rest := by
  induction rest with
  | nil =>
    intro pre hl hs _ _
    rw [List.append_nil] at hl hs
    exact (free_end hl hs _).unitKind h0 (Nat.lt_succ_self _)
  | cons b r ih =>
    intro pre hl hs hroom
    obtain ⟨_, hboff, hblaid, hbtot, _⟩ := layBlocks_mid.mp hl
    have hlim : b.lim c = c.blockSize := blockLimitOf_unit c _ h0 (Nat.le_trans (first_le_total c b) hbtot)
    have hpos : b.off + c.blockSize ≤ c.fileSize := by
      rw [hboff, ← Nat.succ_mul]
      exact room_mono (Nat.add_le_add_left (Nat.succ_pos _) _) hroom
    have hnext : b.off + c.blockSize = (pre ++ [b]).length * c.blockSize := by
      rw [hboff, List.length_append, List.length_singleton, Nat.succ_mul]
    rw [← List.length_append, List.append_cons, List.length_append] at hroom
    rw [← hboff]
    refine ⟨rfl, hpos, ?_, ⟨_, hblaid.1, rfl, rfl⟩, laidT_laid c cells _ _ _ hblaid, hlim ▸ hbtot, ?_, ?_⟩
    · rw [hlim]; exact Nat.le_sub_of_add_le' hpos
    · rw [hlim]
      by_cases hfull : totalRaw c b.es + c.metaSz ≤ c.blockSize
      · exact .inl ((free_behind hl hs hfull).cellAt h0 (Nat.lt_add_of_pos_right h0))
      · exact .inr (Nat.not_le.mp hfull)
    · rw [hlim, hnext]
      exact ih (pre ++ [b]) (List.append_cons .. ▸ hl) (List.append_cons .. ▸ hs) hroom

/-- the writer of every topic sits on the last block of that topic, at the end of its entries -/
def WritersOk (c : Cfg) (i : Inst) (f : Nat) (L : List LBlock) : Prop :=
  ∀ t, match i.writers.get? t with
    | none => ∀ b ∈ L, b.topic ≠ t
    | some w => w.batching = false ∧ w.blk.limit = c.blockSize ∧ w.blk.file = f ∧
        ∃ b ∈ L, b.topic = t ∧ w.blk.off = b.off ∧ w.off = totalRaw c b.es ∧ ∀ x ∈ L, x.topic = t → x.off ≤ b.off

/-- the state of the current WAL file and of the writers, described by the layout `L` -/
structure DiskInv (c : Cfg) (p : Proc) (i : Inst) (f : Nat) (L : List LBlock) : Prop where
  file : i.allocFile = f
  inrange : f < p.files.length
  alloc : i.allocOff = L.length * c.blockSize
  lay : LayBlocks c (fileCells p.files f) 0 L
  stray : NoStray c (fileCells p.files f) L
  writers : WritersOk c i f L

theorem DiskInv.writer_block {c : Cfg} {p : Proc} {i : Inst} {f : Nat} {L : List LBlock} (h : DiskInv c p i f L)
    {t : Topic} {w : Writer} (hw : i.writers.get? t = some w) :
    w.batching = false ∧ w.blk.limit = c.blockSize ∧ w.blk.file = i.allocFile ∧ w.off ≤ c.blockSize := by
  have hwt := h.writers t
  rw [hw] at hwt
  obtain ⟨h1, h2, h3, b, hb, _, _, h6, _⟩ := hwt
  exact ⟨h1, h2, h3.trans h.file.symm, h6 ▸ (layBlocks_off c _ L 0 h.lay b hb).2.2⟩

/-- the entries of topic `t` in layout order -/
def entriesOf (t : Topic) (L : List LBlock) : List Pay := (L.filter (fun b => b.topic = t)).flatMap LBlock.es

theorem entriesOf_append (t : Topic) (A B : List LBlock) : entriesOf t (A ++ B) = entriesOf t A ++ entriesOf t B := by
  simp [entriesOf, List.filter_append, List.flatMap_append]

theorem entriesOf_cons (t : Topic) (b : LBlock) (A : List LBlock) :
    entriesOf t (b :: A) = (if b.topic = t then b.es else []) ++ entriesOf t A := by
  unfold entriesOf
  by_cases h : b.topic = t <;> simp [h]

theorem entriesOf_none (t : Topic) (A : List LBlock) (h : ∀ x ∈ A, x.topic ≠ t) : entriesOf t A = [] := by
  unfold entriesOf
  rw [List.filter_eq_nil_iff.mpr (by intro x hx; simpa using h x hx)]
  rfl

/-- **What `DiskInv` is for:** the recovery scan of the described file registers exactly the blocks of the layout. -/
theorem DiskInv.scan {c : Cfg} {p : Proc} {i : Inst} {f : Nat} {L : List LBlock} (h : DiskInv c p i f L) (hc : CfgOK c)
    (hroom : L.length * c.blockSize ≤ c.fileSize) (s : ScanSt) (fuel : Nat) (hfuel : L.length < fuel) :
    scanFile c f (fileCells p.files f) fuel 0 s = L.foldl (blockStep c f) s :=
  C06_scan_recovers_laid_file c hc.meta_pos f _ L 0 fuel s
    (Nat.zero_mul c.blockSize ▸ fileLaid_of_layout c hc.meta_pos hc.bs_pos _ L [] h.lay h.stray (by simpa using hroom)) hfuel

/-- the layout `L'` holds what `L` holds and, behind the entries of topic `t`, the entries `ps`: in at most one new
block per entry, the blocks of the other topics being the same -/
structure Grows (t : Topic) (L L' : List LBlock) (ps : List Pay) : Prop where
  len : L'.length ≤ L.length + ps.length
  own : entriesOf t L' = entriesOf t L ++ ps
  others : ∀ t', t' ≠ t → entriesOf t' L' = entriesOf t' L
  /-- `keep` and `old`: the blocks of the other topics are the same, which is what their writers stand on (`WritersOk`) -/
  keep : ∀ x ∈ L, x.topic ≠ t → x ∈ L'
  old : ∀ x ∈ L', x.topic ≠ t → x ∈ L

theorem le_add_add {a b c m n : Nat} (h : b ≤ a + m) (h' : c ≤ b + n) : c ≤ a + (m + n) :=
  Nat.add_assoc .. ▸ Nat.le_trans h' (Nat.add_le_add_right h _)

section
variable {t : Topic} {L L' L'' : List LBlock} {ps qs : List Pay}

theorem Grows.refl (t : Topic) (L : List LBlock) : Grows t L L [] :=
  ⟨Nat.le_refl _, (List.append_nil _).symm, fun _ _ => rfl, fun _ h _ => h, fun _ h _ => h⟩

theorem Grows.trans (h : Grows t L L' ps) (h' : Grows t L' L'' qs) : Grows t L L'' (ps ++ qs) where
  len := List.length_append ▸ le_add_add h.len h'.len
  own := by rw [h'.own, h.own, List.append_assoc]
  others t' ht := (h'.others t' ht).trans (h.others t' ht)
  keep x hx ht := h'.keep x (h.keep x hx ht) ht
  old x hx ht := h.old x (h'.old x hx ht) ht

theorem Grows.new_block (L : List LBlock) (o : Nat) (t : Topic) (p : Pay) : Grows t L (L ++ [⟨o, t, p, []⟩]) [p] where
  len := Nat.le_of_eq (List.length_append ..)
  own := by rw [entriesOf_append, entriesOf_cons, if_pos rfl]; rfl
  others t' ht := by rw [entriesOf_append, entriesOf_cons, if_neg (Ne.symm ht)]; exact List.append_nil _
  keep x hx _ := List.mem_append_left _ hx
  old x hx ht := (List.mem_append.mp hx).resolve_right fun h => ht (List.mem_singleton.mp h ▸ rfl)

theorem Grows.extend (pre post : List LBlock) (b : LBlock) (p : Pay) (hpost : ∀ x ∈ post, x.topic ≠ b.topic) :
    Grows b.topic (pre ++ b :: post) (pre ++ { b with rest := b.rest ++ [p] } :: post) [p] where
  len := by rw [List.length_append, List.length_append]; exact Nat.le_add_right _ _
  own := by
    simp only [entriesOf_append, entriesOf_cons, if_true, entriesOf_none _ post hpost, List.append_nil, List.append_assoc]
    rfl
  others t' ht := by simp only [entriesOf_append, entriesOf_cons, if_neg (Ne.symm ht)]
  keep x hx ht := (mem_update _ hx).resolve_left fun h => ht (h ▸ rfl)
  old x hx ht := (mem_update _ hx).resolve_left fun h => ht (h ▸ rfl)

end

/-- topic `t`'s current block in `L` starts at offset `bo` and its entries take `off` bytes (`totalRaw`: where the writer
stands in it).  "Current" is the last block of `t` in list order; `WritersOk` says it by largest offset, and
`DiskInv.curBlock` / `CurBlock.last` go between the two. -/
structure CurBlock (c : Cfg) (L : List LBlock) (t : Topic) (bo off : Nat) : Prop where
  ex : ∃ pre b post, L = pre ++ b :: post ∧ b.topic = t ∧ b.off = bo ∧ totalRaw c b.es = off ∧ ∀ x ∈ post, x.topic ≠ t

theorem CurBlock.last {c : Cfg} {cells : List Cell} {L : List LBlock} {t : Topic} {bo off : Nat}
    (h : CurBlock c L t bo off) (hl : LayBlocks c cells 0 L) : ∀ x ∈ L, x.topic = t → x.off ≤ bo := by
  obtain ⟨pre, b, post, rfl, rfl, rfl, -, hpost⟩ := h.ex
  exact List.forall_mem_append.mpr ⟨fun x hx _ => Nat.le_trans (Nat.le_add_right _ _) ((layBlocks_around hl).1 x hx),
    List.forall_mem_cons.mpr ⟨fun _ => Nat.le_refl _, fun x hx hxt => absurd hxt (hpost x hx)⟩⟩

theorem DiskInv.curBlock {c : Cfg} {p : Proc} {i : Inst} {f : Nat} {L : List LBlock} (h : DiskInv c p i f L)
    (hbs : 0 < c.blockSize) {t : Topic} {w : Writer} (hw : i.writers.get? t = some w) : CurBlock c L t w.blk.off w.off := by
  have hwt := h.writers t
  rw [hw] at hwt
  obtain ⟨-, -, -, b, hb, hbt, hboff, hbtot, hblast⟩ := hwt
  obtain ⟨pre, post, rfl⟩ := List.append_of_mem hb
  refine ⟨⟨pre, b, post, rfl, hbt, hboff.symm, hbtot.symm, fun x hx hxt => ?_⟩⟩
  -- a block of `t` behind `b` would lie above the writer's block
  have h1 := hblast x (List.mem_append_right _ (List.mem_cons_of_mem _ hx)) hxt
  have h2 := (layBlocks_around h.lay).2 x hx
  exact absurd (Nat.le_trans h2 h1) (Nat.not_le.mpr (Nat.lt_add_of_pos_right hbs))

/-- the file after the entries `ps` of topic `t` were written where `pl` (a value of `placeAll`) says is described by the
layout `L'` -/
structure Placed (c : Cfg) (t : Topic) (cells : List Cell) (L : List LBlock) (ps : List Pay)
    (pl : List (Nat × Nat × Pay) × Nat × Nat × Nat) (L' : List LBlock) : Prop where
  lay : LayBlocks c (cellsAfter c t cells pl.1) 0 L'
  stray : NoStray c (cellsAfter c t cells pl.1) L'
  cur : CurBlock c L' t pl.2.1 pl.2.2.1
  alloc : L'.length * c.blockSize = pl.2.2.2
  grows : Grows t L L' ps

theorem Placed.cons {c : Cfg} {t : Topic} {cells : List Cell} {L L1 L' : List LBlock} {p : Pay} {r : List Pay}
    {x : Nat × Nat × Pay} {pl : List (Nat × Nat × Pay) × Nat × Nat × Nat}
    (hclob : clobber c cells (x.1 + x.2.1) (x.1 + x.2.1 + c.metaSz + x.2.2.len) = cells) (g : Grows t L L1 [p])
    (h : Placed c t (cells ++ [⟨x.1 + x.2.1, t, x.2.2⟩]) L1 r pl L') : Placed c t cells L (p :: r) (x :: pl.1, pl.2) L' :=
  ⟨by rw [cellsAfter_cons, hclob]; exact h.lay, by rw [cellsAfter_cons, hclob]; exact h.stray, h.cur, h.alloc,
    g.trans h.grows⟩

/-- **Where the entries of a batch land, and what that does to the layout**: placing starts from the topic's current
block, or, when the topic has no block yet, with a new block.  For such a topic `get_or_create_writer` has allocated the
block at `L.length * blockSize`, which enters the layout only with its first entry: the writer stands at offset 0 of it
and the allocator one block further, hence the arguments of `placeAll` in the second conjunct. -/
theorem placeAll_placed (c : Cfg) (hc : CfgOK c) (t : Topic) (ps : List Pay) :
    ∀ (cells : List Cell) (L : List LBlock), LayBlocks c cells 0 L → NoStray c cells L →
      (∀ p ∈ ps, c.metaSz + p.len ≤ c.blockSize) →
      (∀ bo off, CurBlock c L t bo off → ∃ L', Placed c t cells L ps (placeAll c ps bo off (L.length * c.blockSize)) L') ∧
      (ps ≠ [] →
        ∃ L', Placed c t cells L ps (placeAll c ps (L.length * c.blockSize) 0 (L.length * c.blockSize + c.blockSize)) L') := by
  induction ps with
  | nil => intro cells L hl hs _; exact ⟨fun bo off hcur => ⟨L, hl, hs, hcur, rfl, .refl t L⟩, fun h => absurd rfl h⟩
  | cons p r ih =>
    intro cells L hl hs hfit
    have hp := hfit p List.mem_cons_self
    have hr : ∀ q ∈ r, c.metaSz + q.len ≤ c.blockSize := fun q hq => hfit q (List.mem_cons_of_mem _ hq)
    -- `p` opens a new block behind all blocks, the rest is placed from there: the right-hand side both of `placeAll_new`
    -- (the current block is full) and of `placeAll_fit` at offset 0 of the fresh block
    have hnew : ∃ L', Placed c t cells L (p :: r) ((L.length * c.blockSize, 0, p) ::
        (placeAll c r (L.length * c.blockSize) (c.metaSz + p.len) (L.length * c.blockSize + c.blockSize)).1,
        (placeAll c r (L.length * c.blockSize) (c.metaSz + p.len) (L.length * c.blockSize + c.blockSize)).2) L' := by
      obtain ⟨hclob, hlay, hstray⟩ := layout_new_block c hc.meta_pos cells L t p hl hs hp
      obtain ⟨L', h⟩ := (ih _ _ hlay hstray hr).1 (L.length * c.blockSize) (c.metaSz + p.len)
        ⟨⟨L, _, [], rfl, rfl, rfl, Nat.add_zero _, nofun⟩⟩
      rw [List.length_append, List.length_singleton, Nat.succ_mul] at h
      exact ⟨L', .cons hclob (.new_block L _ t p) h⟩
    refine ⟨fun bo off hcur => ?_, fun _ => ?_⟩
    · obtain ⟨pre, b, post, rfl, rfl, rfl, rfl, hpost⟩ := hcur.ex
      by_cases hroom : totalRaw c b.es + (c.metaSz + p.len) ≤ c.blockSize
      · -- `p` goes behind the entries of the current block
        obtain ⟨hclob, hlay, hstray⟩ := layout_extend_block c hc.meta_pos cells pre post b p hl hs hroom
        obtain ⟨L', h⟩ := (ih _ _ hlay hstray hr).1 b.off (totalRaw c b.es + (c.metaSz + p.len))
          ⟨⟨pre, _, post, rfl, rfl, rfl, totalRaw_snoc c b.es p, hpost⟩⟩
        simp only [List.length_append, List.length_cons] at h ⊢
        rw [placeAll_fit hroom]
        exact ⟨L', .cons hclob (.extend pre post b p hpost) h⟩
      · rw [placeAll_new hroom]
        exact hnew
    · rw [placeAll_fit (Nat.zero_add _ ▸ hp), Nat.zero_add]
      exact hnew

/-- `placeAll_placed` for a topic with a current block, written out -/
theorem layout_placeAll (c : Cfg) (hc : CfgOK c) (t : Topic) (ps : List Pay) :
    ∀ (cells : List Cell) (L : List LBlock) (bo off : Nat),
      LayBlocks c cells 0 L → NoStray c cells L → CurBlock c L t bo off →
      (∀ p ∈ ps, c.metaSz + p.len ≤ c.blockSize) →
      ∃ L', LayBlocks c (cellsAfter c t cells (placeAll c ps bo off (L.length * c.blockSize)).1) 0 L' ∧
        NoStray c (cellsAfter c t cells (placeAll c ps bo off (L.length * c.blockSize)).1) L' ∧
        CurBlock c L' t (placeAll c ps bo off (L.length * c.blockSize)).2.1 (placeAll c ps bo off (L.length * c.blockSize)).2.2.1 ∧
        L'.length * c.blockSize = (placeAll c ps bo off (L.length * c.blockSize)).2.2.2 ∧
        L'.length ≤ L.length + ps.length ∧
        entriesOf t L' = entriesOf t L ++ ps ∧
        (∀ t', t' ≠ t → entriesOf t' L' = entriesOf t' L) ∧
        (∀ x ∈ L, x.topic ≠ t → x ∈ L') ∧ (∀ x ∈ L', x.topic ≠ t → x ∈ L) ∧
        (∀ x ∈ L', x.topic = t → x.off ≤ (placeAll c ps bo off (L.length * c.blockSize)).2.1) := by
  intro cells L bo off hl hs hcur hfit
  obtain ⟨L', h⟩ := (placeAll_placed c hc t ps cells L hl hs hfit).1 bo off hcur
  exact ⟨L', h.lay, h.stray, h.cur, h.alloc, h.grows.len, h.grows.own, h.grows.others, h.grows.keep, h.grows.old,
    h.cur.last h.lay⟩

/-- Every write reaches `DiskInv` through this lemma, so there is one layout argument (`placeAll_placed`): a general
batch by `batch_friendly`, a single append by `append_friendly` and `batchEffect_of_append` (an `AppendEffect` is the
`BatchEffect` of a batch of one), a batch of one entry as the append it equals (`batchAppend_singleton`). -/
theorem diskInv_of_batchEffect (c : Cfg) (hc : CfgOK c) (p : Proc) (i : Inst) (f : Nat) (L : List LBlock) (t : Topic)
    (ps : List Pay) (p' : Proc) (i' : Inst) (h : DiskInv c p i f L) (hne : ps ≠ [])
    (hfit : ∀ q ∈ ps, c.metaSz + q.len ≤ c.blockSize) (eff : BatchEffect c p i t ps p' i') :
    ∃ L', DiskInv c p' i' f L' ∧ L'.length ≤ L.length + ps.length ∧
      entriesOf t L' = entriesOf t L ++ ps ∧ ∀ t', t' ≠ t → entriesOf t' L' = entriesOf t' L := by
  obtain ⟨hfile, hlen, bo, off, aoff0, hstart, hcells, halloc, hwr⟩ := eff
  rw [h.file] at hcells hwr
  have hplaced : ∃ L', Placed c t (fileCells p.files f) L ps (placeAll c ps bo off aoff0) L' := by
    obtain ⟨hcur, hfresh⟩ := placeAll_placed c hc t ps _ L h.lay h.stray hfit
    rcases hstart with ⟨-, rfl, rfl, rfl⟩ | ⟨w, hw, rfl, rfl, rfl⟩
    · rw [h.alloc]; exact hfresh hne
    · rw [h.alloc]; exact hcur _ _ (h.curBlock hc.bs_pos hw)
  obtain ⟨L', hP⟩ := hplaced
  refine ⟨L', ⟨hfile.trans h.file, hlen ▸ h.inrange, halloc.trans hP.alloc.symm, hcells ▸ hP.lay, hcells ▸ hP.stray, fun t' => ?_⟩,
    hP.grows.len, hP.grows.own, hP.grows.others⟩
  have hw' := hwr t'
  by_cases ht : t = t'
  · -- the topic's writer stands behind the entries of the current block
    subst ht
    rw [if_pos rfl] at hw'
    obtain ⟨w', hg, hp⟩ := Option.map_eq_some_iff.mp hw'
    obtain ⟨pre, b, post, rfl, hbt, hbo, hbtot, -⟩ := hP.cur.ex
    simp only [wproj, Prod.mk.injEq] at hp
    obtain ⟨wfile, wboff, wlim, woff, wbatching⟩ := hp
    rw [hg]
    exact ⟨wbatching, wlim, wfile, b, List.mem_append_cons_self, hbt, wboff.trans hbo.symm, woff.trans hbtot.symm,
      hbo ▸ hP.cur.last hP.lay⟩
  · -- the other writers and their blocks are as before
    have ht' : ∀ x : LBlock, x.topic = t' → x.topic ≠ t := fun x hx => hx ▸ Ne.symm ht
    rw [if_neg ht] at hw'
    have hold := h.writers t'
    cases hg : i.writers.get? t' with
    | none =>
      rw [hg] at hw' hold
      rw [Option.map_eq_none_iff.mp hw']
      exact fun x hx hxt => hold x (hP.grows.old x hx (ht' x hxt)) hxt
    | some w2 =>
      rw [hg] at hw' hold
      obtain ⟨w2', hg', hp⟩ := Option.map_eq_some_iff.mp hw'
      simp only [wproj, Prod.mk.injEq] at hp
      obtain ⟨wfile, wboff, wlim, woff, wbatching⟩ := hp
      obtain ⟨a1, a2, a3, b2, hb2, a4, a5, a6, a7⟩ := hold
      rw [hg']
      exact ⟨wbatching.trans a1, wlim.trans a2, wfile.trans a3, b2, hP.grows.keep b2 hb2 (ht' b2 a4), a4,
        wboff.trans a5, woff.trans a6, fun x hx hxt => a7 x (hP.grows.old x hx (ht' x hxt)) hxt⟩

theorem diskInv_batch (c : Cfg) (hc : CfgOK c) (p : Proc) (i : Inst) (f : Nat) (L : List LBlock) (t : Topic) (ps : List Pay)
    (h : DiskInv c p i f L) (hlong : t.long = false) (hne : ps ≠ [])
    (hfit : ∀ q ∈ ps, c.metaSz + q.len ≤ c.blockSize) (hcap : ps.length ≤ c.cap)
    (hbytes : (ps.map fun x => c.metaSz + x.len).sum ≤ c.maxBatchBytes)
    (hroom : (L.length + (ps.length + 1)) * c.blockSize ≤ c.fileSize) :
    (batchAppendForTopic c p i t ps).2.2 = .ok ∧
    ∃ L', DiskInv c (batchAppendForTopic c p i t ps).1 (batchAppendForTopic c p i t ps).2.1 f L' ∧
      L'.length ≤ L.length + ps.length ∧
      entriesOf t L' = entriesOf t L ++ ps ∧ ∀ t', t' ≠ t → entriesOf t' L' = entriesOf t' L := by
  obtain ⟨hok, eff⟩ := batch_friendly c p i t ps hc.meta_pos hc.bs_pos hc.bs_le hlong hne hfit hcap hbytes
    (by rw [h.alloc, ← Nat.add_mul]; exact hroom) (h.file ▸ h.inrange) (fun w hw => h.writer_block hw)
  exact ⟨hok, diskInv_of_batchEffect c hc p i f L t ps _ _ h hne hfit eff⟩

theorem diskInv_append (c : Cfg) (hc : CfgOK c) (p : Proc) (i : Inst) (f : Nat) (L : List LBlock) (t : Topic) (pay : Pay)
    (h : DiskInv c p i f L) (hlong : t.long = false) (hfit : c.metaSz + pay.len ≤ c.blockSize)
    (hroom : (L.length + 1) * c.blockSize ≤ c.fileSize) :
    (appendForTopic c p i t pay).2.2 = .ok ∧
    ∃ L', DiskInv c (appendForTopic c p i t pay).1 (appendForTopic c p i t pay).2.1 f L' ∧ L'.length ≤ L.length + 1 ∧
      entriesOf t L' = entriesOf t L ++ [pay] ∧ ∀ t', t' ≠ t → entriesOf t' L' = entriesOf t' L := by
  obtain ⟨hok, eff⟩ := append_friendly c p i t pay hc.meta_pos hc.bs_pos hc.bs_le hlong hfit
    (by rw [h.alloc, ← Nat.succ_mul]; exact hroom) (fun w hw => ⟨(h.writer_block hw).1, (h.writer_block hw).2.1⟩)
  exact ⟨hok, diskInv_of_batchEffect c hc p i f L t [pay] _ _ h (List.cons_ne_nil _ _)
    (fun q hq => List.mem_singleton.mp hq ▸ hfit)
    (batchEffect_of_append eff hfit (h.file ▸ h.inrange) (fun w hw => h.writer_block hw))⟩

def appendAll (c : Cfg) : Proc → Inst → List (Topic × Pay) → Proc × Inst
  | p, i, [] => (p, i)
  | p, i, (t, pay) :: r => appendAll c (appendForTopic c p i t pay).1 (appendForTopic c p i t pay).2.1 r

def Friendly (c : Cfg) (ops : List (Topic × Pay)) : Prop :=
  ∀ x ∈ ops, x.1.long = false ∧ c.metaSz + x.2.len ≤ c.blockSize

theorem filter_map_topic (t t' : Topic) (ps : List Pay) :
    ((ps.map fun x => (t, x)).filter (fun x => x.1 = t')).map (·.2) = if t = t' then ps else [] := by
  by_cases e : t = t' <;> simp [List.filter_map, Function.comp_def, e]

/-- the layout `L'` holds what `L` holds and, topic by topic and in order, the appended entries `es`: in at most one
new block per entry -/
structure GrowsBy (L L' : List LBlock) (es : List (Topic × Pay)) : Prop where
  len : L'.length ≤ L.length + es.length
  ent : ∀ t, entriesOf t L' = entriesOf t L ++ (es.filter (fun x => x.1 = t)).map (·.2)

section
variable {L L' L'' : List LBlock} {es es' : List (Topic × Pay)}

theorem GrowsBy.refl (L : List LBlock) : GrowsBy L L [] := ⟨Nat.le_refl _, fun _ => (List.append_nil _).symm⟩

theorem GrowsBy.trans (h : GrowsBy L L' es) (h' : GrowsBy L' L'' es') : GrowsBy L L'' (es ++ es') where
  len := List.length_append ▸ le_add_add h.len h'.len
  ent t := by rw [h'.ent, h.ent, List.filter_append, List.map_append, List.append_assoc]

theorem GrowsBy.of_topic {t : Topic} {ps : List Pay} (hlen : L'.length ≤ L.length + ps.length)
    (hown : entriesOf t L' = entriesOf t L ++ ps) (hoth : ∀ t', t' ≠ t → entriesOf t' L' = entriesOf t' L) :
    GrowsBy L L' (ps.map fun x => (t, x)) where
  len := by rw [List.length_map]; exact hlen
  ent t' := by
    rw [filter_map_topic]
    split
    · subst_vars; exact hown
    · rw [hoth t' (Ne.symm ‹_›), List.append_nil]

end

/-- **What the invariant and the bookkeeping are for**: after a program that started on an empty file and appended
`es`, the layout holds exactly `es`, and the recovery scan registers exactly its blocks. -/
theorem DiskInv.recovered {c : Cfg} {p : Proc} {i : Inst} {f : Nat} {L : List LBlock} {es : List (Topic × Pay)}
    (h : DiskInv c p i f L) (g : GrowsBy [] L es) (hc : CfgOK c) (hroom : es.length * c.blockSize ≤ c.fileSize) (s : ScanSt) :
    ∃ L : List LBlock, (∀ t, entriesOf t L = (es.filter (fun x => x.1 = t)).map (·.2)) ∧
      ∀ fuel, L.length < fuel → scanFile c f (fileCells p.files f) fuel 0 s = L.foldl (blockStep c f) s :=
  ⟨L, fun t => (g.ent t).trans (List.nil_append _),
    h.scan hc (room_mono (Nat.zero_add es.length ▸ g.len) hroom) s⟩

theorem diskInv_appendAll (c : Cfg) (hc : CfgOK c) (f : Nat) (ops : List (Topic × Pay)) :
    ∀ (p : Proc) (i : Inst) (L : List LBlock), DiskInv c p i f L → Friendly c ops →
      (L.length + ops.length) * c.blockSize ≤ c.fileSize →
      ∃ L', DiskInv c (appendAll c p i ops).1 (appendAll c p i ops).2 f L' ∧ GrowsBy L L' ops := by
  induction ops with
  | nil => intro p i L h _ _; exact ⟨L, h, .refl L⟩
  | cons op r ih =>
    intro p i L h hf hroom
    obtain ⟨t, pay⟩ := op
    have hfo := hf (t, pay) List.mem_cons_self
    obtain ⟨-, L1, h1, hlen1, hent, hoth⟩ := diskInv_append c hc p i f L t pay h hfo.1 hfo.2
      (room_mono (Nat.add_le_add_left (Nat.le_add_left 1 _) _) hroom)
    obtain ⟨L2, h2, g2⟩ := ih _ _ L1 h1 (fun x hx => hf x (List.mem_cons_of_mem _ hx))
      (room_mono (by rw [List.length_cons, Nat.add_comm r.length, ← Nat.add_assoc]; exact Nat.add_le_add_right hlen1 _) hroom)
    exact ⟨L2, h2, (GrowsBy.of_topic (ps := [pay]) hlen1 hent hoth).trans g2⟩

/-- The appends are run by `appendAll`: `appendForTopic` called directly on a (`Proc`, `Inst`) pair, not through
`Eng.step` (for that see `C06_friendly_append_programs_are_recovered`). -/
theorem C06_friendly_appends_are_recovered (c : Cfg) (hc : CfgOK c) (p : Proc) (i : Inst) (f : Nat)
    (hinit : DiskInv c p i f []) (ops : List (Topic × Pay)) (hf : Friendly c ops)
    (hroom : ops.length * c.blockSize ≤ c.fileSize) (s : ScanSt) :
    ∃ L : List LBlock, (∀ t, entriesOf t L = (ops.filter (fun x => x.1 = t)).map (·.2)) ∧
      ∀ fuel, L.length < fuel →
        scanFile c f (fileCells (appendAll c p i ops).1.files f) fuel 0 s = L.foldl (blockStep c f) s := by
  obtain ⟨L, hL, g⟩ := diskInv_appendAll c hc f ops p i [] hinit hf (by simpa using hroom)
  exact hL.recovered g hc hroom s

/-! the same, stated on programs of the engine model (`Eng.step`), the vocabulary of the correspondence runs -/

inductive FOp where
  | append (t : Topic) (p : Pay)
  /-- `batch_append_for_topic` with one entry -/
  | batch1 (t : Topic) (p : Pay)
  /-- `batch_append_for_topic` with any number of entries -/
  | batch (t : Topic) (ps : List Pay)
  | next (t : Topic) (cp : Bool)
  | bread (t : Topic) (maxBytes : Nat) (cp : Bool) (start : Option Nat)
  | count (t : Topic)

def FOp.toOp : FOp → Op
  | .append t p => .append t p
  | .batch1 t p => .batch t [p]
  | .batch t ps => .batch t ps
  | .next t cp => .next t cp
  | .bread t m cp st => .bread t m cp st
  | .count t => .count t

def appendsOf : List FOp → List (Topic × Pay)
  | [] => []
  | .append t p :: r => (t, p) :: appendsOf r
  | .batch1 t p :: r => (t, p) :: appendsOf r
  | .batch t ps :: r => ps.map (fun x => (t, x)) ++ appendsOf r
  | _ :: r => appendsOf r

def BatchesOK (c : Cfg) (ops : List FOp) : Prop :=
  ∀ t ps, FOp.batch t ps ∈ ops →
    ps ≠ [] ∧ ps.length ≤ c.cap ∧ (ps.map fun x => c.metaSz + x.len).sum ≤ c.maxBatchBytes

/-- room, in blocks, that the theorems ask for beyond a block per appended entry: one block if the program contains
a general batch (from the room hypothesis of `batch_friendly`: a block per entry and one more).  A `batch1` is run as
the append it equals (`batchAppend_singleton`): no slack, no `BatchesOK`. -/
def slack : List FOp → Nat
  | [] => 0
  | .batch _ _ :: _ => 1
  | _ :: r => slack r

def execF (c : Cfg) : Proc → List FOp → Proc
  | p, [] => p
  | p, op :: r => execF c (Eng.step c p op.toOp).1 r

theorem appendsOf_cons (op : FOp) (r : List FOp) : appendsOf (op :: r) = appendsOf [op] ++ appendsOf r := by
  cases op <;> simp [appendsOf]

theorem appendsOf_batch (t : Topic) (ps : List Pay) : appendsOf [.batch t ps] = ps.map fun x => (t, x) := List.append_nil _

theorem slack_le_one (l : List FOp) : slack l ≤ 1 := by
  induction l with
  | nil => exact Nat.zero_le _
  | cons a b ih => cases a <;> first | exact ih | exact Nat.le_refl _

theorem slack_cons (op : FOp) (r : List FOp) : slack [op] ≤ slack (op :: r) ∧ slack r ≤ slack (op :: r) := by
  cases op <;> first | exact ⟨Nat.zero_le _, Nat.le_refl _⟩ | exact ⟨Nat.le_refl _, slack_le_one r⟩

/-- the invariant reads the current file only: files created behind it do not matter -/
theorem DiskInv.filesExt {c : Cfg} {p p' : Proc} {i : Inst} {f : Nat} {L : List LBlock} (h : DiskInv c p i f L)
    (he : FilesExt p p') : DiskInv c p' i f L := by
  have hc := fileCells_filesExt he h.inrange
  obtain ⟨extra, hx, -⟩ := he
  exact ⟨h.file, by rw [hx, List.length_append]; exact Nat.lt_of_lt_of_le h.inrange (Nat.le_add_right _ _), h.alloc,
    hc ▸ h.lay, hc ▸ h.stray, h.writers⟩

theorem DiskInv.congr {c : Cfg} {p p' : Proc} {i i' : Inst} {f : Nat} {L : List LBlock}
    (hfiles : p'.files = p.files) (hw : i'.wside = i.wside) (h : DiskInv c p i f L) : DiskInv c p' i' f L := by
  obtain ⟨h1, h2, -, h4⟩ := Inst.wside_eq.mp hw
  exact ⟨h1.trans h.file, hfiles ▸ h.inrange, h2.trans h.alloc, hfiles ▸ h.lay, hfiles ▸ h.stray,
    by unfold WritersOk; rw [h4]; exact h.writers⟩

/-- `Eng.step` on an operation of the open instance: the instance is put back into the process, which the invariant
does not look at -/
theorem diskInv_withInst {c : Cfg} {p : Proc} {i : Inst} {f : Nat} {L L1 : List LBlock} {es : List (Topic × Pay)}
    {g : Inst → Proc × Inst × Out} (hi : p.inst = some i) (h : DiskInv c (g i).1 (g i).2.1 f L1) (gr : GrowsBy L L1 es) :
    ∃ i' L', (withInst p g).1.inst = some i' ∧ DiskInv c (withInst p g).1 i' f L' ∧ GrowsBy L L' es := by
  rw [withInst_some p g i hi]
  exact ⟨_, L1, rfl, .congr (p := (g i).1) rfl rfl h, gr⟩

theorem diskInv_stepF (c : Cfg) (hc : CfgOK c) {p : Proc} {i : Inst} {f : Nat} {L : List LBlock} (op : FOp)
    (hi : p.inst = some i) (h : DiskInv c p i f L) (hf : Friendly c (appendsOf [op])) (hbok : BatchesOK c [op])
    (hmb : ∀ t q, op = .batch1 t q → c.metaSz + q.len ≤ c.maxBatchBytes)
    (hroom : (L.length + (appendsOf [op]).length + slack [op]) * c.blockSize ≤ c.fileSize) :
    ∃ i' L', (Eng.step c p op.toOp).1.inst = some i' ∧ DiskInv c (Eng.step c p op.toOp).1 i' f L' ∧
      GrowsBy L L' (appendsOf [op]) := by
  cases op with
  | append t pay =>
    have hfo := hf (t, pay) List.mem_cons_self
    obtain ⟨-, L1, h1, hl, ho, hot⟩ := diskInv_append c hc p i f L t pay h hfo.1 hfo.2 hroom
    exact diskInv_withInst hi h1 (.of_topic (ps := [pay]) hl ho hot)
  | batch1 t pay =>
    have hfo := hf (t, pay) List.mem_cons_self
    obtain ⟨-, L1, h1, hl, ho, hot⟩ := diskInv_append c hc p i f L t pay h hfo.1 hfo.2 hroom
    -- `FOp.batch1.toOp` is `.batch t [pay]`: state the append's result about the batch call it equals
    rw [← batchAppend_singleton c p i t pay hc.meta_pos hc.bs_pos hc.bs_le hc.cap_pos (hmb t pay rfl)
      (Nat.le_trans hfo.2 hc.bs_le) hfo.1] at h1
    exact diskInv_withInst hi h1 (.of_topic (ps := [pay]) hl ho hot)
  | batch t ps =>
    obtain ⟨hne, hcap, hbytes⟩ := hbok t ps List.mem_cons_self
    have hf' : ∀ q ∈ ps, t.long = false ∧ c.metaSz + q.len ≤ c.blockSize := fun q hq =>
      hf (t, q) (List.mem_append_left _ (List.mem_map.mpr ⟨q, hq, rfl⟩))
    obtain ⟨q, hq⟩ := List.exists_mem_of_ne_nil ps hne
    obtain ⟨-, L1, h1, hl, ho, hot⟩ := diskInv_batch c hc p i f L t ps h (hf' q hq).1 hne (fun q hq => (hf' q hq).2) hcap hbytes
      (by rw [appendsOf_batch, List.length_map] at hroom; exact hroom)
    exact diskInv_withInst hi h1 (appendsOf_batch t ps ▸ .of_topic hl ho hot)
  | next t cp =>
    have e := readNext_effect c p i t cp
    exact diskInv_withInst hi (h.congr e.files e.wside) (.refl L)
  | bread t m cp st =>
    have e := batchRead_effect c p i t m cp st
    exact diskInv_withInst hi (h.congr e.files e.wside) (.refl L)
  | count t => exact diskInv_withInst hi h (.refl L)

/-- splits the room hypothesis between the head operation and the tail of the induction -/
theorem room_step {l a b s1 sr s bs fs : Nat} (hroom : (l + (a + b) + s) * bs ≤ fs) (hs : s1 ≤ s ∧ sr ≤ s) :
    (l + a + s1) * bs ≤ fs ∧ ∀ l1, l1 ≤ l + a → (l1 + b + sr) * bs ≤ fs :=
  ⟨room_mono (by omega) hroom, fun _ _ => room_mono (by omega) hroom⟩

/-- The byte bound on `batch1` follows from `Friendly` when `blockSize ≤ maxBatchBytes` (`mem_appendsOf_batch1`). -/
theorem diskInv_execF (c : Cfg) (hc : CfgOK c) (f : Nat) (ops : List FOp) :
    ∀ (p : Proc) (i : Inst) (L : List LBlock), p.inst = some i → DiskInv c p i f L → Friendly c (appendsOf ops) →
      BatchesOK c ops → (∀ t q, FOp.batch1 t q ∈ ops → c.metaSz + q.len ≤ c.maxBatchBytes) →
      (L.length + (appendsOf ops).length + slack ops) * c.blockSize ≤ c.fileSize →
      ∃ i' L', (execF c p ops).inst = some i' ∧ DiskInv c (execF c p ops) i' f L' ∧ GrowsBy L L' (appendsOf ops) := by
  induction ops with
  | nil => intro p i L hi h _ _ _ _; exact ⟨i, L, hi, h, .refl L⟩
  | cons op r ih =>
    intro p i L hi h hf hbok hmb hroom
    rw [appendsOf_cons] at hf hroom ⊢
    rw [List.length_append] at hroom
    obtain ⟨hroom1, hroom2⟩ := room_step hroom (slack_cons op r)
    obtain ⟨i1, L1, hi1, h1, g1⟩ := diskInv_stepF c hc op hi h (fun x hx => hf x (List.mem_append_left _ hx))
      (fun t ps hm => hbok t ps (List.mem_singleton.mp hm ▸ List.mem_cons_self))
      (fun t q e => hmb t q (e ▸ List.mem_cons_self)) hroom1
    obtain ⟨i2, L2, hi2, h2, g2⟩ := ih _ i1 L1 hi1 h1 (fun x hx => hf x (List.mem_append_right _ hx))
      (fun t ps hm => hbok t ps (List.mem_cons_of_mem _ hm)) (fun t q hm => hmb t q (List.mem_cons_of_mem _ hm))
      (hroom2 _ g1.len)
    exact ⟨i2, L2, hi2, h2, g1.trans g2⟩

theorem mem_appendsOf_batch1 {ops : List FOp} {t : Topic} {q : Pay} (h : FOp.batch1 t q ∈ ops) : (t, q) ∈ appendsOf ops := by
  induction ops with
  | nil => cases h
  | cons op r ih =>
    rw [appendsOf_cons]
    rcases List.mem_cons.mp h with rfl | h'
    · exact List.mem_append_left _ List.mem_cons_self
    · exact List.mem_append_right _ (ih h')

/-- The programs (`FOp`) mix, in any order, appends, reads of both APIs (consuming or not, cursor-based or
offset-addressed), count queries, single-entry batch appends (the call the data plane of distributed-walrus makes) and
general batch appends of one-unit entries.  `hmb : blockSize ≤ maxBatchBytes` is a condition on the geometry outside
`CfgOK`: the `batch1` case needs the one entry within the byte limit (`batchAppend_singleton`). -/
theorem C06_friendly_programs_are_recovered (c : Cfg) (hc : CfgOK c) (hmb : c.blockSize ≤ c.maxBatchBytes)
    (p : Proc) (i : Inst) (f : Nat)
    (hi : p.inst = some i) (hinit : DiskInv c p i f []) (ops : List FOp) (hf : Friendly c (appendsOf ops))
    (hbok : BatchesOK c ops)
    (hroom : ((appendsOf ops).length + slack ops) * c.blockSize ≤ c.fileSize) (s : ScanSt) :
    ∃ L : List LBlock, (∀ t, entriesOf t L = ((appendsOf ops).filter (fun x => x.1 = t)).map (·.2)) ∧
      ∀ fuel, L.length < fuel →
        scanFile c f (fileCells (execF c p ops).files f) fuel 0 s = L.foldl (blockStep c f) s := by
  obtain ⟨i', L, -, hL, g⟩ := diskInv_execF c hc f ops p i [] hi hinit hf hbok
    (fun t q hm => Nat.le_trans (hf (t, q) (mem_appendsOf_batch1 hm)).2 hmb)
    (by simpa using hroom)
  exact hL.recovered g hc (room_mono (Nat.le_add_right _ _) hroom) s

def execAppends (c : Cfg) : Proc → List (Topic × Pay) → Proc
  | p, [] => p
  | p, (t, pay) :: r => execAppends c (Eng.step c p (.append t pay)).1 r

theorem execAppends_eq_execF (c : Cfg) (ops : List (Topic × Pay)) :
    ∀ p, execAppends c p ops = execF c p (ops.map fun x => .append x.1 x.2) := by
  induction ops with
  | nil => intro p; rfl
  | cons x r ih => intro p; exact ih _

theorem appendsOf_map_append (ops : List (Topic × Pay)) : appendsOf (ops.map fun x => .append x.1 x.2) = ops := by
  induction ops with
  | nil => rfl
  | cons x r ih => simp only [List.map_cons, appendsOf, ih]

theorem slack_map_append (ops : List (Topic × Pay)) : slack (ops.map fun x => .append x.1 x.2) = 0 := by
  induction ops with
  | nil => rfl
  | cons x r ih => exact ih

theorem C06_friendly_append_programs_are_recovered (c : Cfg) (hc : CfgOK c) (p : Proc) (i : Inst) (f : Nat)
    (hi : p.inst = some i) (hinit : DiskInv c p i f []) (ops : List (Topic × Pay)) (hf : Friendly c ops)
    (hroom : ops.length * c.blockSize ≤ c.fileSize) (s : ScanSt) :
    ∃ L : List LBlock, (∀ t, entriesOf t L = (ops.filter (fun x => x.1 = t)).map (·.2)) ∧
      ∀ fuel, L.length < fuel →
        scanFile c f (fileCells (execAppends c p ops).files f) fuel 0 s = L.foldl (blockStep c f) s := by
  rw [execAppends_eq_execF]
  obtain ⟨i', L, -, hL, g⟩ := diskInv_execF c hc f (ops.map fun x => .append x.1 x.2) p i [] hi hinit
    (by rw [appendsOf_map_append]; exact hf) (fun t ps hm => by simp at hm) (fun t q hm => by simp at hm)
    (by simpa [appendsOf_map_append, slack_map_append] using hroom)
  rw [appendsOf_map_append] at g
  exact hL.recovered g hc hroom s

/-- the blocks of topic `t` among `L`, as the scan registers them when it starts numbering at `base` -/
def chainOf (c : Cfg) (f : Nat) (t : Topic) : Nat → List LBlock → List Blk
  | _, [] => []
  | base, b :: r =>
    if b.topic = t then
      { id := base, file := f, off := b.off, limit := b.lim c, used := totalRaw c b.es } :: chainOf c f t (base + 1) r
    else chainOf c f t (base + 1) r

theorem reader_chain_appendBlockToChain (i : Inst) (t t' : Topic) (b : Blk) :
    ((appendBlockToChain i t b).reader t').chain = if t = t' then (i.reader t').chain ++ [b] else (i.reader t').chain := by
  unfold appendBlockToChain Inst.reader
  simp only
  rw [AMap.get?_insert]
  by_cases e : t = t'
  · subst e
    simp only [if_true, Option.getD_some]
    split <;> rfl
  · simp only [e, if_false]

theorem C06_recovered_chains (c : Cfg) (f : Nat) (t : Topic) (L : List LBlock) :
    ∀ (s : ScanSt), ((L.foldl (blockStep c f) s).inst.reader t).chain =
      (s.inst.reader t).chain ++ chainOf c f t s.nextId L ∧ (L.foldl (blockStep c f) s).nextId = s.nextId + L.length := by
  induction L with
  | nil => intro s; simp [chainOf]
  | cons b r ih =>
    intro s
    simp only [List.foldl_cons]
    obtain ⟨h1, h2⟩ := ih (blockStep c f s b)
    rw [h1, h2]
    simp only [blockStep, chainOf, reader_chain_appendBlockToChain, List.length_cons]
    refine ⟨?_, by omega⟩
    by_cases e : b.topic = t
    · simp [e]
    · simp [e]

/-- the starting point is what `open` on an empty directory produces -/
example : ∃ i, (Eng.step smallCfg {} (.open_ .strict)).1.inst = some i ∧
    DiskInv smallCfg (Eng.step smallCfg {} (.open_ .strict)).1 i 0 [] :=
  ⟨_, rfl, rfl, by decide +kernel, rfl, trivial, nofun, fun _ => nofun⟩

/-- the starting point exists: an instance whose allocator stands at the beginning of an empty file -/
example : DiskInv smallCfg { files := [{ dir := 0, name := 1, cells := [], present := true }] } {} 0 [] :=
  ⟨rfl, by decide, rfl, trivial, nofun, fun _ => nofun⟩

/-- four appends to two topics on the fresh file (the third and fourth do not fit the topic's current block): the scan
finds three one-entry blocks of topic 0 and one of topic 1 -/
example : (scanFile smallCfg 0
      (fileCells (appendAll smallCfg { files := [{ dir := 0, name := 1, cells := [], present := true }] } {}
        [(⟨0, false⟩, ⟨100, 1⟩), (⟨1, false⟩, ⟨200, 2⟩), (⟨0, false⟩, ⟨3700, 3⟩), (⟨0, false⟩, ⟨50, 4⟩)]).1.files 0)
      5 0 { trk := {}, inst := { dir := 0, mode := .strict } }).perTopic =
    [(⟨0, false⟩, [1, 1, 1]), (⟨1, false⟩, [1])] := by decide +kernel

/-- a program with a two-entry batch that spills into a second block meets the hypotheses of
`C06_friendly_programs_are_recovered`, and (evaluated) the scan finds the two entries of topic 0 in a block each and
the entry of topic 1 in its own -/
def demoF : List FOp :=
  [.batch ⟨0, false⟩ [⟨2000, 2⟩, ⟨2500, 3⟩], .next ⟨0, false⟩ true, .batch1 ⟨1, false⟩ ⟨7, 5⟩, .count ⟨0, false⟩]

example : Friendly smallCfg (appendsOf demoF) ∧ BatchesOK smallCfg demoF ∧
    ((appendsOf demoF).length + slack demoF) * smallCfg.blockSize ≤ smallCfg.fileSize := by
  refine ⟨by unfold Friendly; decide, ?_, by decide⟩
  · intro t ps h
    simp only [demoF, List.mem_cons, FOp.batch.injEq, List.not_mem_nil, or_false, reduceCtorEq] at h
    obtain ⟨rfl, rfl⟩ := h
    decide

example : (scanFile smallCfg 0
      (fileCells (execF smallCfg { files := [{ dir := 0, name := 1, cells := [], present := true }], inst := some {} }
        demoF).files 0)
      5 0 { trk := {}, inst := { dir := 0, mode := .strict } }).perTopic =
    [(⟨1, false⟩, [1]), (⟨0, false⟩, [1, 1])] := by decide +kernel

/-- three entries laid out from the start of a block, a stale cell further on: the walk returns the three -/
example : walkBlock smallCfg
    [⟨4096, ⟨0, false⟩, ⟨100, 1⟩⟩, ⟨4096 + 356, ⟨0, false⟩, ⟨0, 0⟩⟩, ⟨4096 + 612, ⟨0, false⟩, ⟨1000, 3⟩⟩,
     ⟨4096 + 3000, ⟨0, false⟩, ⟨5, 9⟩⟩] 4096 4096 17 0 0 = (100 + 0 + 1000 + 3 * 256, 3) := by decide +kernel

end WalrusVerif.Props.C06
