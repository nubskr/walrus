import WalrusVerif.Lemmas.DurableLemmas
/-!
# C10 — with SyncEach, acknowledged appends and consumption survive power loss

Statement: with `FsyncSchedule::SyncEach`, an append that returned success, and in StrictlyAtOnce mode
a consuming read that returned, is still reflected after a power loss at any later point.  A power
loss keeps only data and directory entries that had been explicitly synced, and each unsynced write
may or may not be kept.

**Partial.**  The statement is about traces of I/O events and what a power loss keeps of them
(Model/Durable.lean).  Proved, for traces of any length and every power-loss point:

* `C10_acked_appends_durable` — if a trace follows the append discipline (`AckDisciplined`: before an
  append is acknowledged its entry write is synced — O_SYNC descriptor or a later sync of that file — and
  the file's creation, if it happened in this run, is followed by a directory sync), then at **every**
  later power-loss point the write of every acknowledged entry is durable, whatever else is lost.
  No disk state is formalised: "durable" is the predicate `writeDurable` of Model/Durable.lean (the write is synced
  and so is its file's directory entry); that a disk keeps such a write is the power-loss model of the statement,
  assumed and not observed;
* `C10_acked_consumption_durable` — likewise for consumption under `ReadDisciplined`;
* `C10_durable_monotone` — durability of an entry write (`writeDurable`) only grows with the power-loss point;
* `C10_counterexample_renameWithoutDirSync` — a trace in which the index is renamed into place and the
  read returns without a directory sync is *not* disciplined and the rename is not durable at the next
  point: this was the engine's index persist on the pinned tree (`tmp write, fsync(tmp), rename`, no directory
  fsync — finding `indexRenameNotDurable`, repaired by fix 5288e6e, which syncs the directory after the rename):
  on the repaired tree every recorded trace is read-disciplined and `C10_acked_consumption_durable` applies.

The tie to the code is a check of the recorded traces, not a model of the write path: hook H1 records
every entry write (with the O_SYNC status of its descriptor), file sync, file creation, directory sync,
index write/sync/rename of the real engine under SyncEach, the harness inserts the acknowledgements,
and the driver decides `AckDisciplined` / `ReadDisciplined` for each recorded trace with the executable checkers of
Model/Durable.lean (`C10_checker_sound`).  The recorded traces cover appends and batches on both backends, block
rotation, file roll-over, and a non-SyncEach instance constructed first in the same process.
-/
namespace WalrusVerif.Props.C10
open WalrusVerif.Durable

theorem C10_durable_monotone (tr : Trace) (k k' j : Nat) (hk : k ≤ k') (h : writeDurable tr k j) : writeDurable tr k' j := by
  obtain ⟨f, id, s, hj, he, hs, hf⟩ := h
  refine ⟨f, id, s, Nat.lt_of_lt_of_le hj hk, he, ?_, fileDurable_mono hf hk⟩
  rcases hs with hs | hs
  · exact Or.inl hs
  · exact Or.inr (occursIn_mono hs hk)

/-- **C10 (appends).** In a disciplined trace, every acknowledged entry's write is durable at every
power-loss point after the acknowledgement (`hd` gives it at the acknowledgement, `C10_durable_monotone` from there). -/
theorem C10_acked_appends_durable (tr : Trace) (hd : AckDisciplined tr) (a id k : Nat)
    (hack : tr[a]? = some (.ack id)) (hk : a ≤ k) :
    ∃ j, j < a ∧ writeDurable tr k j ∧ ∃ f s, tr[j]? = some (.write f id s) := by
  obtain ⟨j, f, s, hj, he, hs, hf⟩ := hd a id hack
  exact ⟨j, hj, C10_durable_monotone tr a k j hk ⟨f, id, s, hj, he, hs, hf⟩, f, s, he⟩

/-- **C10 (consumption).** In a read-disciplined trace, the index version of every returned consuming read
is durably in place at every later power-loss point. -/
theorem C10_acked_consumption_durable (tr : Trace) (hd : ReadDisciplined tr) (a v k : Nat)
    (hack : tr[a]? = some (.ackRead v)) (hk : a ≤ k) : ∃ j, j < a ∧ renameDurable tr k j := by
  obtain ⟨j, hj, he, ho⟩ := hd a v hack
  exact ⟨j, hj, v, Nat.lt_of_lt_of_le hj hk, he, occursIn_mono ho hk⟩

/-- the executable checker the driver runs on every recorded trace is sound: a trace it accepts is
disciplined, hence (by the theorems above) everything it acknowledges is durable at every later point -/
theorem C10_checker_sound (tr : Trace) :
    (ackDisciplinedB tr = true → AckDisciplined tr) ∧ (readDisciplinedB tr = true → ReadDisciplined tr) :=
  ⟨ackDisciplinedB_sound tr, readDisciplinedB_sound tr⟩

/-- the engine's index persist before fix 5288e6e: rename without a directory sync; the read returns -/
def idxTrace : Trace := [.renameIdx 1, .ackRead 1]

/-- **Finding `indexRenameNotDurable` (the pinned tree; repaired by fix 5288e6e).** That trace is not read-disciplined, and at the point right
after the read returned the rename is not durable: the old cursor can come back after a power loss. -/
theorem C10_counterexample_renameWithoutDirSync :
    ¬ ReadDisciplined idxTrace ∧ ¬ renameDurable idxTrace 2 0 := by
  constructor
  · intro h
    obtain ⟨j, hj, _, m, h1, h2, _⟩ := h 1 1 rfl
    omega
  · intro ⟨v, _, _, m, h1, h2, e, hm, hq⟩
    have : m = 1 := by omega
    subst this
    simp [idxTrace] at hm
    subst hm
    simp [isSyncDir] at hq

/-! Non-vacuity: a disciplined trace with a file creation, a synced write and an O_SYNC write. -/
def goodTrace : Trace :=
  [.create 0, .syncFile 0, .syncDir, .write 0 1 false, .syncFile 0, .ack 1, .write 0 2 true, .ack 2]

example : AckDisciplined goodTrace := ackDisciplinedB_sound _ (by decide)

/-- the index persist after fix 5288e6e (rename, directory sync, then the read returns) is read-disciplined -/
example : Durable.readDisciplinedB [.renameIdx 1, .syncDir, .ackRead 1] = true := by decide

end WalrusVerif.Props.C10
