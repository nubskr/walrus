import WalrusVerif.Lemmas.AEngStep
/-!
# C01 — consuming reads deliver every appended entry once, in order, byte-identical

Statement: for any sequence of single and batch appends (any payload sizes up to the advertised
limits, including empty payloads and payloads that force block rotation) and consuming reads
(`read_next` or `batch_read_for_topic` with checkpoint=true and any byte budget) on any set of
topics, the entries returned for a topic are exactly the successfully appended entries of that
topic, in append order, each returned once and byte-identical.  No appended entry is ever skipped:
a consuming read comes back empty only when every appended entry of that topic has already been
returned.

Model: `AEng` (Model/AEng.lean) — `write`, `batch_write`, `append_block_to_chain`, `read_next`,
`batch_read_for_topic` (planner with single/double peek and raw-byte budget, parser with cap,
payload budget, incomplete entries, commit) at the level of entries in blocks, any number of
topics, any geometry satisfying `CfgOK`.  Payloads are opaque values that the model returns or
not (byte-identity = the same value comes back).  The specification is `accepts`
(Spec/Queue.lean): a per-topic FIFO with a consumed index.

`C01_refines` is the full statement for one process lifetime (no restart: that is C06) and
sequential callers (concurrency is C05).  Operations that the engine rejects (too many entries,
over the byte limit, topic name too long for the header) are inside the quantifier, and so is the
empty batch, which returns ok (`AEng.batchWriteCore`).  The hypothesis `WithinLimits` excludes
appends, single or inside a batch, of an entry whose header and payload together exceed
`MAX_ALLOC` (1 GiB).  The model rejects such an entry before any state changes (`AEng.write`,
`AEng.batchWrite`), as walrus does since repository commit 843acde (finding `sealThenAllocFail`: Props/C04).
The proof therefore does not use the hypothesis: `AEng.run_accepts` is the theorem without it.

The per-state theorems `C01_next_is_oldest_unconsumed` and `C01_batch_is_prefix` are about every
topic state that satisfies the invariant `TInv`.  The initial state satisfies it and every step of
the engine preserves it (`AEng.sinv_init`, `AEng.step_sim`); the induction "reachable ⇒ `TInv`" is
carried out inside `AEng.runFrom_accepts` and is not a lemma of its own.
-/
namespace WalrusVerif.Props.C01
open WalrusVerif WalrusVerif.Eng WalrusVerif.AEng

/-- both geometries the correspondence runs use satisfy the configuration hypotheses -/
theorem realCfg_ok : CfgOK realCfg := ⟨by decide, by decide, by decide, by decide⟩
theorem smallCfg_ok : CfgOK smallCfg := ⟨by decide, by decide, by decide, by decide⟩

/-- **C01.** Every history of appends, batch appends, consuming reads, peeks, offset reads and
counts, over any number of topics, of any length, is a history of the FIFO specification.  (`hl` is not used.) -/
theorem C01_refines (c : Cfg) (hc : CfgOK c) (ops : List AOp) (hl : ∀ op ∈ ops, op.WithinLimits c) :
    accepts Spec.init (ops.zip (run c ops)) :=
  run_accepts c hc ops

/-- the production geometry, with the literal constants of `config.rs` -/
theorem C01_production (ops : List AOp) (hl : ∀ op ∈ ops, op.WithinLimits realCfg) :
    accepts Spec.init (ops.zip (run realCfg ops)) := C01_refines realCfg realCfg_ok ops hl

/-- `read_next` in any state satisfying `TInv` returns the oldest unconsumed entry, `none` exactly
when everything is consumed -/
theorem C01_next_is_oldest_unconsumed (c : Cfg) (hc : CfgOK c) (n : Nat) (a : ATopic) (k : Nat) (h : TInv c n a k)
    (cp : Bool) : (readNext c a cp).2 = (log a)[k]? ∧ ((readNext c a cp).2 = none ↔ k = (log a).length) := by
  have := (readNext_spec c hc.meta_pos cp n a k h).1
  rw [this, List.getElem?_eq_none_iff]
  exact ⟨rfl, fun hle => Nat.le_antisymm h.k_le hle, fun e => Nat.le_of_eq e.symm⟩

/-- a batch read in any state satisfying `TInv` returns a prefix of the unconsumed entries,
untrimmed and in order, and it is empty only if nothing is unconsumed (this is also C03's progress
clause) -/
theorem C01_batch_is_prefix (c : Cfg) (hc : CfgOK c) (n : Nat) (a : ATopic) (k : Nat) (h : TInv c n a k)
    (maxB : Nat) (cp : Bool) :
    (∃ m, (batchRead c a maxB cp).2 = (((log a).drop k).take m).map (·, 0)) ∧
      ((batchRead c a maxB cp).2 = [] → k = (log a).length) := by
  obtain ⟨m, hes, _⟩ := batchRead_spec c hc.meta_pos n a k h maxB cp
  refine ⟨⟨m, hes⟩, fun he => Nat.le_antisymm h.k_le (Nat.le_of_not_lt fun hlt => ?_)⟩
  have := batchRead_progress c hc.meta_pos hc.cap_pos n a k h maxB cp hlt
  rw [he] at this
  exact Nat.not_succ_le_zero _ this

/-! Non-vacuity: a run that rotates a block, mixes both read APIs, with an empty payload and a
rejected batch, evaluated by the kernel on the model (small geometry). -/
def demo : List AOp :=
  [.append ⟨0, false⟩ ⟨3000, 1⟩, .batch ⟨0, false⟩ [⟨100, 2⟩, ⟨0, 0⟩, ⟨1200, 3⟩], .append ⟨1, false⟩ ⟨7, 4⟩,
   .batch ⟨0, false⟩ [⟨1, 5⟩, ⟨1, 6⟩, ⟨1, 7⟩, ⟨1, 8⟩, ⟨1, 9⟩, ⟨1, 10⟩],
   .next ⟨0, false⟩ true, .bread ⟨0, false⟩ 100 true none, .bread ⟨0, false⟩ 5000 true none,
   .next ⟨0, false⟩ true, .count ⟨0, false⟩, .next ⟨1, false⟩ true]

example : run smallCfg demo =
    [.ok, .ok, .ok, .err .invalidInput, .entry (some ⟨3000, 1⟩), .entries [(⟨100, 2⟩, 0), (⟨0, 0⟩, 0)],
     .entries [(⟨1200, 3⟩, 0)], .entry none, .num 0, .entry (some ⟨7, 4⟩)] := by decide
example : ∀ op ∈ demo, op.WithinLimits smallCfg := by
  simp only [demo, List.forall_mem_cons, List.not_mem_nil, false_imp_iff, implies_true, AOp.WithinLimits, raw]
  decide

end WalrusVerif.Props.C01
