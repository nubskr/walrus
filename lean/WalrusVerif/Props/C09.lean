import WalrusVerif.Lemmas.CrashLemmas
/-!
# C09 — consumer positions survive crashes with the promised delivery guarantee

Statement: in StrictlyAtOnce mode, after a crash at any point and a restart, a consumer resumes
immediately after the last entry whose consuming read had returned.  No such entry is delivered
again and no later entry is skipped; only the read in flight at the crash may go either way.  In
AtLeastOnce mode no unconsumed entry is ever skipped after a restart, and read_next redelivers at
most persist_every entries.

**Partial.**  The crash model (Model/Engine.lean, `Op.crashAt`): the process is killed immediately
before the `n`-th index persist (tmp write or rename) of a consuming read; whatever the read had
persisted before that point is in the index file, nothing in memory survives.  Proved about it:

* `C09_crash_in_read_keeps_every_wal_file` — a process death inside `read_next` or a batch read, at
  any of its I/O boundaries, leaves every WAL file exactly as it was: a crash on the read path can
  move the consumer's position but can never lose, alter or add an entry;
* `C09_read_next_persists_only_its_own_position` — the index persists that one `read_next` logs (`idxLog`: the
  events between which hook H1 can kill the process) are at most two, all for the topic being read;
  `C09_other_topics_untouched` — applying persists of one topic (`applyIdx`) leaves the position of every other
  topic as it was.  With the `crashAt` case of `step` — the index file after the crash is the index before the
  read with a *prefix* of that read's own persists applied — they say: positions of other topics are untouched
  and no position from a later state can appear (only the read in flight may go either way).  That tie is read
  off the model's `crashAt` case, not proved: neither theorem mentions `step` or `crashAt`, and there is none
  for a batch read (whose log `batchRead_effect` bounds in the same way);
* `C09_alo_counter_bounded`, `C09_alo_persists_every_n_reads` — AtLeastOnce, at the level of the persist counter
  (`should_persist`): the counter stays below `persist_every`, and from such a counter one of the next
  `persist_every - readsSince` unforced calls says "persist".

What these say about *entries delivered after the restart* (which entry the recovered position
denotes once `startup_chore` has rebuilt the chains and re-numbered the blocks) is decided by the
correspondence and the oracle: ~400 histories per quick run with the process killed inside consuming
reads at every index-persist boundary (hook H1), StrictlyAtOnce and AtLeastOnce{1..8}, sealed and tail
positions; oracle: after the restart the position is the one before or after the read in flight
(StrictlyAtOnce), never beyond it (AtLeastOnce: nothing skipped).  Open findings in whose regions the
property is false: `emptyBlockAllocated`, `scanStopsAtEmptyBlock`, `cursorsNotStableAcrossDeletion`,
`clockRegressionReordersFiles` (see C06).  Not decided: the AtLeastOnce redelivery bound
(`persist_every`) of the engine — the two counter-level theorems do not mention `read_next`, and the oracle only
checks that nothing is skipped.
-/
namespace WalrusVerif.Props.C09
open WalrusVerif WalrusVerif.Eng

/-- also the statement of `C07_crash_in_read_touches_no_entry` -/
theorem C09_crash_in_read_keeps_every_wal_file (c : Cfg) (p : Proc) (kind n : Nat) (fd : Bool) (t : Topic)
    (cp : Bool) (m : Nat) (st : Option Nat) :
    (step c p (.crashAt kind n fd (.next t cp))).1.files = p.files ∧
    (step c p (.crashAt kind n fd (.bread t m cp st))).1.files = p.files :=
  files_crashAt_read c p kind n fd t cp m st

/-- `crashAt` empties `idxLog` before it runs the read: the log it applies a prefix of is this `l` -/
theorem C09_read_next_persists_only_its_own_position (c : Cfg) (p : Proc) (i : Inst) (t : Topic) (cp : Bool) :
    ∃ l, (readNext c p i t cp).2.1.idxLog = i.idxLog ++ l ∧ l.length ≤ 2 ∧ ∀ x ∈ l, x.1 = t :=
  (readNext_effect c p i t cp).log

theorem C09_other_topics_untouched (idx : AMap Topic Pos) (t t' : Topic) (l : List (Topic × Pos))
    (hl : ∀ x ∈ l, x.1 = t) (hne : t ≠ t') : (applyIdx idx l).get? t' = idx.get? t' := by
  induction l generalizing idx with
  | nil => rfl
  | cons x r ih =>
    show (applyIdx (idx.insert x.1 x.2) r).get? t' = _
    rw [ih _ fun y hy => hl y (List.mem_cons_of_mem _ hy), hl x (List.mem_cons_self ..), AMap.get?_insert_ne _ _ _ _ hne]

/-- `should_persist` on an unforced call in AtLeastOnce mode: it counts up to `persist_every` (at least 1), says
"persist" there and starts again -/
theorem shouldPersist_alo (n : Nat) (info : ColInfo) :
    shouldPersist (.alo n) info false =
      if info.readsSince + 1 ≥ max n 1 then ({ info with readsSince := 0 }, true)
      else ({ info with readsSince := info.readsSince + 1 }, false) := rfl

/-- the hypothesis of `C09_alo_persists_every_n_reads` holds after every call, forced or not, whatever the counter was
before (`h` is not used) -/
theorem C09_alo_counter_bounded (n : Nat) (info : ColInfo) (force : Bool) (h : info.readsSince < max n 1) :
    (shouldPersist (.alo n) info force).1.readsSince < max n 1 := by
  have h0 : 0 < max n 1 := Nat.lt_of_lt_of_le Nat.one_pos (Nat.le_max_right ..)
  cases force
  · rw [shouldPersist_alo]; split
    · exact h0
    · exact Nat.lt_of_not_le ‹_›
  · exact h0

/-- `k` consecutive consuming `read_next` calls, seen by the counter: the flags say which of them persisted -/
def persistFlags (n : Nat) : Nat → ColInfo → List Bool
  | 0, _ => []
  | k + 1, info => (shouldPersist (.alo n) info false).2 :: persistFlags n k (shouldPersist (.alo n) info false).1

/-- **AtLeastOnce, counter level.**  From a counter below `persist_every`, one of the next
`persist_every - readsSince` unforced calls of `should_persist` says "persist".  Nothing more: the statement does not
mention `readNextLoop` (one unforced call per delivered entry; on the tail path forced calls, which reset the counter). -/
theorem C09_alo_persists_every_n_reads (n : Nat) (info : ColInfo) (h : info.readsSince < max n 1) :
    true ∈ persistFlags n (max n 1 - info.readsSince) info := by
  generalize hk : max n 1 - info.readsSince = k
  induction k generalizing info with
  | zero => omega
  | succ k ih =>
    rw [persistFlags, shouldPersist_alo]
    split
    · exact List.mem_cons_self
    · exact List.mem_cons_of_mem _ (ih _ (Nat.lt_of_not_le ‹_›) (by show max n 1 - (info.readsSince + 1) = k; omega))

example : persistFlags 3 3 {} = [false, false, true] := by decide

/-! Non-vacuity: a consuming `read_next` killed before the rename of its (only) persist; after the
restart the entry is delivered again — the read in flight went "not happened" (small geometry). -/
example : Eng.run smallCfg
      [.open_ .strict, .append ⟨0, false⟩ ⟨10, 1⟩, .append ⟨0, false⟩ ⟨20, 2⟩, .next ⟨0, false⟩ true,
       .crashAt 3 0 true (.next ⟨0, false⟩ true), .clock 5, .open_ .strict, .count ⟨0, false⟩, .next ⟨0, false⟩ true] =
    [.ok, .ok, .ok, .entry (some ⟨10, 1⟩), .crashed, .ok, .ok, .num 1, .entry (some ⟨20, 2⟩)] := by decide +kernel

end WalrusVerif.Props.C09
