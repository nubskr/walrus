import WalrusVerif.Lemmas.ParseLemmas
import WalrusVerif.Model.Engine
import WalrusVerif.Props.C01
/-!
# C03 — batch reads honour the entry cap and byte budget and always make progress

Statement: every batch read returns at most 2000 entries.  Their total payload never exceeds the
byte budget unless the read returns exactly one entry.  Whenever the topic holds an entry that the
caller's cursor has not yet consumed, the read returns at least one entry.

Model: `Eng.batchRead` (`walrus_read.rs::batch_read_for_topic`, cursor-based and offset-addressed).
`C03_batchRead` states cap and budget together for one call, in any geometry; `C03_cap` (production
geometry, the literal 2000) and `C03_budget` are its two halves, and `C03_run` lifts it to every
`bread` operation of any program.  They are proved for **every** state, disk content, budget, flag
and start offset (no invariant needed: they are properties of the parser for any plan), on the
storage-level model `Eng`.  The progress clause `C03_progress` is proved on the entry-level model
`AEng` for every topic state satisfying the engine invariant `TInv` (the engine's steps preserve it,
`AEng.step_sim`, so these include every reachable state), every budget (including 0) and every
cursor position.  `C03_progress_history` is the progress clause along histories.
-/
namespace WalrusVerif.Props.C03
open WalrusVerif WalrusVerif.Eng

/-- The result of a batch read is a list of entries obeying cap and budget — any state, any args. -/
theorem C03_batchRead (c : Cfg) (p : Proc) (i : Inst) (t : Topic) (maxB : Nat) (cp : Bool)
    (start : Option Nat) :
    ∃ es, (Eng.batchRead c p i t maxB cp start).2.2 = .entries es ∧
      es.length ≤ c.cap ∧ (sumReturned es ≤ maxB ∨ es.length ≤ 1) := by
  have hnil : ∃ es, Out.entries [] = .entries es ∧ es.length ≤ c.cap ∧ (sumReturned es ≤ maxB ∨ es.length ≤ 1) :=
    ⟨[], rfl, Nat.zero_le _, .inr (Nat.zero_le _)⟩
  fun_cases batchRead c p i t maxB cp start with
  | case1 | case3 => exact hnil
  | case2 sp _ ps => exact ⟨_, rfl, parsePlan_result c _ maxB 0 _⟩
  | case4 req pl _ => exact ⟨_, rfl, parsePlan_result c _ maxB _ _⟩

/-- Every output of a `bread` operation in **any** program (any history before it, restarts,
rejected operations, both modes) obeys cap and budget. -/
theorem C03_run (c : Cfg) (p : Proc) (ops : List Op) (k : Nat) (t : Topic) (maxB : Nat) (cp : Bool)
    (start : Option Nat) (h : ops[k]? = some (.bread t maxB cp start)) :
    ∃ o, (runFrom c p ops)[k]? = some o ∧
      (o = .err .closed ∨ ∃ es, o = .entries es ∧ es.length ≤ c.cap ∧ (sumReturned es ≤ maxB ∨ es.length ≤ 1)) := by
  induction ops generalizing p k with
  | nil => cases h
  | cons op rest ih =>
    cases k with
    | zero =>
      obtain rfl : op = .bread t maxB cp start := Option.some.inj h
      refine ⟨_, rfl, ?_⟩
      show (withInst p fun i => batchRead c p i t maxB cp start).2 = .err .closed ∨ _
      unfold withInst
      cases p.inst with
      | none => exact .inl rfl
      | some i => exact .inr (C03_batchRead c p i t maxB cp start)
    | succ k => exact ih (step c p op).1 k h

/-- C03, first clause, with the literal of the statement: production geometry ⇒ at most 2000. -/
theorem C03_cap (p : Proc) (i : Inst) (t : Topic) (maxB : Nat) (cp : Bool) (start : Option Nat) :
    ∃ es, (batchRead realCfg p i t maxB cp start).2.2 = .entries es ∧ es.length ≤ 2000 := by
  obtain ⟨es, he, hc, _⟩ := C03_batchRead realCfg p i t maxB cp start
  exact ⟨es, he, hc⟩

/-- C03, second clause: total payload ≤ budget unless exactly one entry is returned. -/
theorem C03_budget (c : Cfg) (p : Proc) (i : Inst) (t : Topic) (maxB : Nat) (cp : Bool)
    (start : Option Nat) :
    ∃ es, (batchRead c p i t maxB cp start).2.2 = .entries es ∧
      (sumReturned es ≤ maxB ∨ es.length = 1) := by
  obtain ⟨es, he, _, hb⟩ := C03_batchRead c p i t maxB cp start
  refine ⟨es, he, ?_⟩
  rcases hb with hb | hb
  · exact Or.inl hb
  · match es, hb with
    | [], _ => exact .inl (Nat.zero_le _)
    | [_], _ => exact .inr rfl

/-- **C03, third clause.** In every topic state satisfying `TInv`, with any byte budget and either
flag: if an entry is unconsumed, the cursor batch read returns at least one entry. -/
theorem C03_progress (c : Cfg) (hc : AEng.CfgOK c) (n : Nat) (a : AEng.ATopic) (k : Nat) (h : AEng.TInv c n a k)
    (maxB : Nat) (cp : Bool) (hne : k < (AEng.log a).length) : 1 ≤ (AEng.batchRead c a maxB cp).2.length :=
  AEng.batchRead_progress c hc.meta_pos hc.cap_pos n a k h maxB cp hne

/-- … and over histories.  The statement is that of `C01_refines`, word for word: the specification
every history satisfies demands a non-empty result whenever the topic has pending entries
(`accepts`, clause for `bread`). -/
theorem C03_progress_history (c : Cfg) (hc : AEng.CfgOK c) (ops : List AEng.AOp)
    (hl : ∀ op ∈ ops, op.WithinLimits c) :
    AEng.accepts AEng.Spec.init (ops.zip (AEng.run c ops)) :=
  Props.C01.C01_refines c hc ops hl

/-! Non-vacuity: a concrete run in the small geometry that rotates a block and hits the cap (5). -/
def demoOps : List Op :=
  [.open_ .strict,
   .batch ⟨0, false⟩ [⟨3000, 1⟩, ⟨100, 2⟩, ⟨0, 0⟩, ⟨700, 3⟩, ⟨1, 4⟩],
   .batch ⟨0, false⟩ [⟨5, 5⟩, ⟨5, 6⟩, ⟨5, 7⟩],
   .bread ⟨0, false⟩ 50 true none,
   .bread ⟨0, false⟩ (2 ^ 64 - 1) true none,
   .bread ⟨0, false⟩ 0 true none]

example : (run smallCfg demoOps).drop 3 =
    [.entries [(⟨3000, 1⟩, 0)],
     .entries [(⟨100, 2⟩, 0), (⟨0, 0⟩, 0), (⟨700, 3⟩, 0), (⟨1, 4⟩, 0), (⟨5, 5⟩, 0)],
     .entries [(⟨5, 6⟩, 0)]] := by decide

end WalrusVerif.Props.C03
