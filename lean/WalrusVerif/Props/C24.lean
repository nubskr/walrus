import WalrusVerif.Lemmas.FrameLemmas
import WalrusVerif.Lemmas.AMapLemmas
/-!
# C24 — client protocol stays frame-synchronised and round-trips payloads

Statement: for any byte stream sent by a client, every length-prefixed frame gets exactly one
response, in order, and a malformed frame never causes later bytes to be read as a different
frame.  The malformed frames covered are zero or oversized lengths, invalid UTF-8 and unknown or
incomplete commands.  A payload PUT and then returned by GET comes back byte-identical (the
command line's trailing whitespace is not part of the payload).

Model: `Frame.serve` (`client.rs::handle_connection` after the `fix:` commit that drains the body
of an oversized frame), `Frame.handleCommand`.  `dec` is the UTF-8 decoder and is arbitrary in
the synchronisation theorems; the backend is a per-topic FIFO.

The last sentence is proved at the level of command lines (`C24_roundtrip`, `C24_trim_preserves`).  No theorem
composes `serve` on an encoded PUT frame and GET frame with `dec`, `trimEnd` and `handleCommand`: from `C24_sync` the
byte-level round trip follows by the definition of `respond` (decode, trim, `handleCommand`) for a `dec` that inverts
the client's encoding.  A stream that ends inside a frame: `serve_frames` (FrameLemmas) allows any tail behind the
frames, no theorem here states it.
-/
namespace WalrusVerif.Props.C24
open WalrusVerif WalrusVerif.Frame

/-- Synchronisation: on **any** concatenation of frames — whatever their announced lengths
(zero, oversized up to `u32::MAX`) and bodies (invalid UTF-8, unknown or incomplete commands) —
the server sends exactly one response per frame, in order, and response `k` is computed from frame
`k`'s own bytes (and the backend state left by the frames before it).  Each frame is complete (`hwf`: its body is as
long as announced, and the length fits the `u32` prefix), so a stream whose last frame is cut short is not covered. -/
theorem C24_sync (dec : Bytes → Option Str) (frames : List Fr) (b : Backend)
    (hwf : ∀ f ∈ frames, f.WF) :
    serve dec ((frames.flatMap Fr.encode).length) (frames.flatMap Fr.encode) b = respondAll dec b frames := by
  -- `serve` spends one unit of fuel per frame, and a frame is at least its 4-byte prefix: the byte length is enough
  have hlen : frames.length ≤ (frames.flatMap Fr.encode).length := by
    clear hwf
    induction frames with
    | nil => simp
    | cons f r ih => simp only [List.flatMap_cons, List.length_append, List.length_cons, Fr.encode, enc32]; omega
  simpa [serve_nil] using serve_frames dec frames [] b _ hwf hlen

/-- of the specification `respondAll`; of `serve` by `C24_sync` -/
theorem C24_one_response_per_frame (dec : Bytes → Option Str) (frames : List Fr) (b : Backend) :
    (respondAll dec b frames).length = frames.length := by
  induction frames generalizing b with
  | nil => rfl
  | cons f r ih => simp [respondAll, ih]

/-- A frame with a zero or oversized length is answered with the length error and does not
change the backend; together with `C24_sync` its body is never interpreted.  The literal 65536 is checked against
`Consts.MAX_FRAME_LEN` inside the proof. -/
theorem C24_bad_length (dec : Bytes → Option Str) (b : Backend) (n : Nat) (body : Bytes)
    (h : n = 0 ∨ n > 65536) : respond dec b n body = (b, lit "ERR invalid frame length") := by
  have : Consts.MAX_FRAME_LEN = 65536 := by decide
  unfold respond
  rw [this]
  simp [h]

theorem C24_bad_utf8 (dec : Bytes → Option Str) (b : Backend) (n : Nat) (body : Bytes)
    (hn : ¬ (n = 0 ∨ n > Consts.MAX_FRAME_LEN)) (h : dec body = none) :
    respond dec b n body = (b, lit "ERR invalid utf-8") := by
  simp [respond, hn, h]

/-- the "unknown command" of the statement -/
theorem C24_unknown_command (b : Backend) (line : Str)
    (h : (splitSpace line).1 ≠ kREGISTER ∧ (splitSpace line).1 ≠ kPUT ∧ (splitSpace line).1 ≠ kGET ∧
         (splitSpace line).1 ≠ kSTATE ∧ (splitSpace line).1 ≠ kMETRICS) :
    handleCommand b line = (b, lit "ERR unknown command") := by
  unfold handleCommand
  obtain ⟨h1, h2, h3, h4, h5⟩ := h
  simp [h1, h2, h3, h4, h5]

/-- Round trip at the command level (`handleCommand`, which `respond` calls on the decoded and trimmed line):
`PUT t p` then `GET t` on a topic with nothing pending returns `OK p` with `p` unchanged, for every topic without a
space and every payload `p` (inner, leading and trailing whitespace included: nothing is asked of `p`).  That the PUT
line reaches `handleCommand` as sent needs `p` non-empty and not ending in whitespace: `C24_trim_preserves`. -/
theorem C24_roundtrip (b : Backend) (t p : Str) (ht : ∀ c ∈ t, c ≠ ' ')
    (hq : (b.queues.get? t).getD [] = []) :
    let line1 := kPUT ++ ' ' :: (t ++ ' ' :: p)
    let line2 := kGET ++ ' ' :: t
    let (b1, r1) := handleCommand b line1
    r1 = lit "OK" ∧ (handleCommand b1 line2).2 = okPrefix ++ p := by
  intro line1 line2
  have hg : (b.put t p).get t = ({ queues := (b.put t p).queues.insert t [] }, some p) := by
    simp only [Backend.get, Backend.put, hq, List.nil_append, AMap.get?_insert_self]
  simp only [line1, line2, handleCommand_put b t p ht, handleCommand_get _ _ t p ht hg, and_self]

/-- `trim_end` leaves a PUT line alone when its payload is non-empty and does not end in whitespace, so that payload
is what `C24_roundtrip` is about.  (That trailing whitespace of a line is dropped is the definition of `respond`,
which trims before `handleCommand`; it is not in this statement.) -/
theorem C24_trim_preserves (t p : Str) (hp : ∀ c, p.getLast? = some c → isWs c = false) (hne : p ≠ []) :
    trimEnd (kPUT ++ ' ' :: (t ++ ' ' :: p)) = kPUT ++ ' ' :: (t ++ ' ' :: p) := by
  apply trimEnd_id
  intro c hc
  apply hp
  have e : kPUT ++ ' ' :: (t ++ ' ' :: p) = (kPUT ++ ' ' :: (t ++ [' '])) ++ p := by simp
  have : (kPUT ++ ' ' :: (t ++ ' ' :: p)).getLast? = p.getLast? := by
    rw [e, List.getLast?_append]
    cases hl : p.getLast? with
    | none => exact absurd (List.getLast?_eq_none_iff.mp hl) hne
    | some x => simp
  rw [← this]; exact hc

/-! A payload with leading and inner spaces meets the hypotheses of `C24_roundtrip`; the prefix of an oversized frame
(70000 > `MAX_FRAME_LEN`) reads back, so `Fr.WF` admits such frames. -/
example : (handleCommand {} (kPUT ++ ' ' :: (['t'] ++ ' ' :: [' ', 'a', ' ', 'b']))).2 = lit "OK" :=
  (C24_roundtrip {} ['t'] [' ', 'a', ' ', 'b'] (by decide) rfl).1
example : le32 (enc32 70000) = 70000 := le32_enc32 _ (by decide)

end WalrusVerif.Props.C24
