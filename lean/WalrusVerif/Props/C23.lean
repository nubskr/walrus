import WalrusVerif.Lemmas.PlaneInv
/-!
# C23 — a segment is never written after the node holding it applied its sealing

*Statement.* Once a node has applied the metadata rollover that seals a segment, that node never again writes an
entry into that segment.  A node never writes into a segment that its applied metadata assigns to another node.
Quantifier: all interleavings of appends with rollover application and lease refresh on the writing node.

The property is **false of the code** (open finding `staleLeaseWrite`): the lease is checked (`ensure_lease`) before
the per-key lock is taken and the entry written, and the lease set itself is only as recent as the last
`update_leases`; a rollover applied on the node in between is not noticed.  `C23_counterexample` is such an
interleaving of two PUTs on one node; `corpus/staleLeaseWrite.plprog` replays it on the real code.

What holds for **every** schedule is `C23_partial`, about writes made under a *current* lease set.  So every violating
write is made under a lease set that an apply has outdated, or that no longer held the key
(`C23_violation_needs_outdated_leases`): the window between a lease refresh and the write.  On a schedule with no apply
on a node while an append is in flight there, no write violates C23 (`C23_holds_when_applies_are_quiet`).
-/
namespace WalrusVerif.Plane
open WalrusVerif

/-- **C23 (partial), every schedule.** In every execution - any cluster size, rollover threshold, topics, any
sequence of task spawns, task steps, per-node applies and lease syncs - every write that was made while the writing
node's lease set was current (nothing applied on that node since its last lease refresh, key still in the set) went
into a segment that the node's applied metadata had open and assigned to that node. -/
theorem C23_partial (n thresh : Nat) (topics : List (Name × Nat)) (acts : List Act) :
    ∀ ev ∈ (runActs (setup n thresh topics) acts).writes, ev.leasesCurrent = true → ev.ownedAtWrite = true :=
  writesOk_runActs _ acts (leaseInv_setup n thresh topics) (by rw [(setup_blank n thresh topics).2.1]; nofun)

/-- restated as what a violation needs: a write into a sealed or foreign segment was made under a lease set that an
apply on that node had outdated (or that no longer held the key) -/
theorem C23_violation_needs_outdated_leases (n thresh : Nat) (topics : List (Name × Nat)) (acts : List Act)
    (ev : WriteEv) (h : ev ∈ (runActs (setup n thresh topics) acts).writes) (hv : ev.ownedAtWrite = false) :
    ev.leasesCurrent = false := by
  cases hc : ev.leasesCurrent with
  | false => rfl
  | true => rw [C23_partial n thresh topics acts ev h hc] at hv; cases hv

/-- **C23 on schedules whose applies are quiet**: no apply on a node while an append is in flight there, between its
lease refresh and its write; applies on *other* nodes at any time (of `QuietSchedule`'s spawn clause the proof uses only
"not in flight").  With `C23_counterexample`: the only way to violate C23 is an apply on the writing node in that window. -/
theorem C23_holds_when_applies_are_quiet (n thresh : Nat) (topics : List (Name × Nat)) (acts : List Act)
    (hq : QuietSchedule (setup n thresh topics) acts) :
    ∀ ev ∈ (runActs (setup n thresh topics) acts).writes, ev.ownedAtWrite = true :=
  fun ev hev => C23_partial n thresh topics acts ev hev <|
    writesCurrent_quiet _ acts hq (leaseInv_setup n thresh topics)
      (tasks_empty (setup_blank n thresh topics).1)
      (by rw [(setup_blank n thresh topics).2.1]; nofun) ev hev

def ta : Name := ['a']

/-- a schedule with two overlapping PUTs on one node (task 1 waits for the key lock task 2 holds) and the rollover
applied after both wrote is quiet: it meets the hypothesis of `C23_holds_when_applies_are_quiet` -/
example : QuietSchedule (setup 2 2 [(ta, 1)])
    [.spawn 1 (.putStart 1 ta 1), .step 1, .step 1, .spawn 2 (.putStart 1 ta 2), .step 2, .step 2, .step 2, .step 1,
     .step 2, .step 2, .step 1, .step 1, .step 1, .step 1, .step 2, .step 2, .step 1, .apply 1, .apply 2, .step 1] :=
  quietScheduleB_sound _ _ (by decide +kernel)

/-- a PUT that runs alone: its write is made under a current lease set (the hypothesis of `C23_partial` is met) -/
example : (runActs (setup 2 2 [(ta, 1)])
    [.spawn 1 (.putStart 1 ta 7), .step 1, .step 1, .step 1, .step 1]).writes =
    [⟨1, (ta, 1), 7, true, true⟩] := by decide +kernel

/-- the schedule of `corpus/staleLeaseWrite.plprog`: two PUTs on node 1, threshold 1.  Task 1 passes the lease check;
task 2 appends, proposes the rollover, node 1 applies it; task 1 then writes into the segment node 1 has sealed. -/
def staleLeaseSchedule : List Act :=
  [.spawn 1 (.putStart 1 ta 1), .step 1, .step 1,
   .spawn 2 (.putStart 1 ta 2), .step 2, .step 2, .step 2, .step 2, .step 2, .step 2, .step 2,
   .apply 1, .step 2,
   .step 1, .step 1]

/-- **C23 is false of the code.** After node 1 applied the rollover that seals segment 1 of topic `a` (and hands
segment 2 to node 2), task 1 writes payload 1 into segment 1 on node 1. -/
theorem C23_counterexample :
    (runActs (setup 2 1 [(ta, 1)]) staleLeaseSchedule).writes =
      [⟨1, (ta, 1), 2, true, true⟩, ⟨1, (ta, 1), 1, false, false⟩] ∧
    (((runActs (setup 2 1 [(ta, 1)]) staleLeaseSchedule).node 1).md.topics.get? ta).map
      (fun ts => (ts.currentSegment, ts.leaderNode, ts.sealedSegments)) = some (2, 2, [(1, 1)]) := by
  decide +kernel

end WalrusVerif.Plane
