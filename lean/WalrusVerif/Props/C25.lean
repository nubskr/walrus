import WalrusVerif.Lemmas.WalKeyLemmas
/-!
# C25 — segment storage keys map one-to-one to (topic, segment)

Statement: every (topic name, segment number) pair maps to a distinct storage key, and decoding
that key yields exactly the same topic name and segment number.

Quantifier: **all** topic strings (`List Char`, including ones containing `_s_`, `t_`, digits,
empty) and all `u64` segment numbers.  Format pieces (`t_`, `_s_`) are regenerated from
`controller/types.rs` on every run; `e1`-`e3` of `C25_roundtrip` re-check them by `decide`.
-/
namespace WalrusVerif.Props.C25
open WalrusVerif WalrusVerif.WalKey

/-- second half of the statement -/
theorem C25_roundtrip (topic : List Char) (seg : Nat) (h : seg < 2 ^ 64) :
    parseWalKey (walKey topic seg) = some (topic, seg) := by
  have e1 : Consts.WAL_KEY_FMT_PREFIX = Consts.WAL_KEY_PARSE_PREFIX := by decide
  -- the separator in the shape `rsplit_last` takes: its last character apart, which no digit of the segment is
  have e2 : Consts.WAL_KEY_FMT_SEP = ['_', 's'] ++ ['_'] := by decide
  have e3 : Consts.WAL_KEY_PARSE_SEP = ['_', 's'] ++ ['_'] := by decide
  unfold parseWalKey walKey
  rw [e1, e2, e3, rsplit_last _ _ _ _ fun hc => absurd (render_digits seg '_' hc) (by decide)]
  simp only [stripPrefix_append, parseU64_render seg h]

/-- first half of the statement -/
theorem C25_injective (t₁ t₂ : List Char) (n₁ n₂ : Nat) (h₁ : n₁ < 2 ^ 64) (h₂ : n₂ < 2 ^ 64)
    (h : walKey t₁ n₁ = walKey t₂ n₂) : t₁ = t₂ ∧ n₁ = n₂ := by
  have a := C25_roundtrip t₁ n₁ h₁
  have b := C25_roundtrip t₂ n₂ h₂
  rw [h, b] at a
  simpa [eq_comm] using a

/-! Non-vacuity: topics that contain the separators themselves (instances of the theorem), and
one rendered key evaluated. -/
example : parseWalKey (walKey ['a', '_', 's', '_', '7'] 3) = some (['a', '_', 's', '_', '7'], 3) :=
  C25_roundtrip _ _ (by decide)
example : parseWalKey (walKey ['t', '_'] 0) = some (['t', '_'], 0) := C25_roundtrip _ _ (by decide)
example : parseWalKey (walKey [] 18446744073709551615) = some ([], 18446744073709551615) :=
  C25_roundtrip [] _ (by decide)
example : walKey ['x'] 12 = ['t', '_', 'x', '_', 's', '_', '1', '2'] := by
  simp [walKey, render, decDigit]; decide
/-- The parser is not injective in the other direction (leading `+`/zeros are accepted), which the
property does not ask for. -/
example : parseU64 ['+', '0', '7'] = some 7 := by decide

end WalrusVerif.Props.C25
