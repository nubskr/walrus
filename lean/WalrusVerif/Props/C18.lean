import WalrusVerif.Lemmas.MetaLemmas
/-!
# C18 — cluster metadata keeps an immutable, contiguous segment history

Statement: for any sequence of metadata commands, including duplicates, stale rollovers, unknown
topics and undecodable bytes, applying them never panics.  Each topic's segments stay numbered
1..current with exactly one leader each, and the leader of the open segment is the topic leader.
A sealed segment's entry count and leader never change afterwards, and the cumulative sealed
offset equals the sum of the sealed counts.

Model: `Meta.applyCmd` / `Meta.applyBytes` (`distributed-walrus/src/metadata.rs`).  The model is a
total function whose `u64` additions are `checked_add`s that reject the command; "never panics"
is therefore carried by (a) totality here, (b) `C18_counters_in_range` (no `u64` operation of an
accepted command overflows) and (c) the correspondence run, in which a panic of the real
`apply` is a disagreement.  All theorems are for command sequences of any length over any number
of topics and nodes.
-/
namespace WalrusVerif.Props.C18
open WalrusVerif WalrusVerif.Meta

def runBytes (s : ClusterState) (bss : List (List UInt8)) : ClusterState :=
  bss.foldl (fun st bs => (applyBytes st bs).1) s

theorem runBytes_eq_run (s : ClusterState) (bss : List (List UInt8)) :
    runBytes s bss = run s (bss.filterMap decodeCmd) := by
  simp only [run, runBytes, List.foldl_filterMap, applyBytes]
  congr; funext st bs
  cases decodeCmd bs <;> rfl

/-- The invariant, spelled out as in the statement, after **any** command sequence. -/
theorem C18_inv (cmds : List Cmd) (name : Name) (t : TopicState)
    (h : (run ClusterState.init cmds).topics.get? name = some t) :
    1 ≤ t.currentSegment ∧
    (∀ k, (t.segmentLeaders.get? k).isSome ↔ (1 ≤ k ∧ k ≤ t.currentSegment)) ∧
    (∀ k, (t.sealedSegments.get? k).isSome ↔ (1 ≤ k ∧ k < t.currentSegment)) ∧
    t.segmentLeaders.get? t.currentSegment = some t.leaderNode ∧
    t.lastSealedEntryOffset = sumSealed t.sealedSegments (t.currentSegment - 1) := by
  have i := inv_run ClusterState.init cmds inv_init name t h
  exact ⟨i.cur_pos, i.leaders_keys, i.sealed_keys, i.open_leader, i.offset_sum⟩

/-- the "undecodable bytes" of the statement -/
theorem C18_undecodable_rejected (s : ClusterState) (bs : List UInt8) (h : decodeCmd bs = none) :
    applyBytes s bs = (s, .errDecode) := by
  simp [applyBytes, h]

/-- The same invariant for arbitrary *byte strings* fed to `apply`, decodable or not. -/
theorem C18_inv_bytes (bss : List (List UInt8)) : Meta.Inv (runBytes ClusterState.init bss) :=
  runBytes_eq_run _ bss ▸ inv_run _ _ inv_init

/-- Every command that is answered with an error or `EXISTS` leaves the state untouched. -/
theorem C18_rejected_unchanged (s : ClusterState) (c : Cmd)
    (h : (applyCmd s c).2 ≠ .created ∧ (applyCmd s c).2 ≠ .rolled ∧ (applyCmd s c).2 ≠ .node) :
    (applyCmd s c).1 = s := by
  revert h
  fun_cases applyCmd s c <;> simp

/-- No `u64` counter of an accepted command overflows. -/
theorem C18_counters_in_range (cmds : List Cmd) (name : Name) (t : TopicState)
    (h : (run ClusterState.init cmds).topics.get? name = some t) :
    t.currentSegment < 2 ^ 64 ∧ t.lastSealedEntryOffset < 2 ^ 64 := by
  have i := inv_run ClusterState.init cmds inv_init name t h
  exact ⟨i.cur_lt, i.offset_lt⟩

/-- Sealed history is immutable: whatever commands follow, a sealed segment keeps its entry count
and its leader (and the topic never disappears or moves backwards). -/
theorem C18_sealed_immutable (before after : List Cmd) (name : Name) (t : TopicState)
    (h : (run ClusterState.init before).topics.get? name = some t) :
    ∃ t', (run ClusterState.init (before ++ after)).topics.get? name = some t' ∧
      t.currentSegment ≤ t'.currentSegment ∧
      ∀ k, 1 ≤ k → k < t.currentSegment →
        (∃ cnt, t.sealedSegments.get? k = some cnt ∧ t'.sealedSegments.get? k = some cnt) ∧
        (∃ ldr, t.segmentLeaders.get? k = some ldr ∧ t'.segmentLeaders.get? k = some ldr) := by
  have i := inv_run ClusterState.init before inv_init name t h
  obtain ⟨t', h', hle, hk⟩ := sealed_stable_run (run ClusterState.init before) after name t h
  refine ⟨t', ?_, hle, ?_⟩
  · simpa [run, List.foldl_append] using h'
  · intro k h1 h2
    obtain ⟨a, b⟩ := hk k h2
    have s1 := (i.sealed_keys k).mpr ⟨h1, h2⟩
    have s2 := (i.leaders_keys k).mpr ⟨h1, by omega⟩
    obtain ⟨cnt, hc⟩ := Option.isSome_iff_exists.mp s1
    obtain ⟨ldr, hl⟩ := Option.isSome_iff_exists.mp s2
    exact ⟨⟨cnt, hc, by rw [a, hc]⟩, ⟨ldr, hl, by rw [b, hl]⟩⟩

/-! Non-vacuity: a run with a duplicate create, a stale/duplicate rollover, an unknown topic and
an overflowing count; evaluated by the kernel. -/
def demo : List Cmd :=
  [.createTopic ['a'] 1, .createTopic ['a'] 2, .rolloverTopic ['a'] 2 5, .rolloverTopic ['a'] 2 7,
   .rolloverTopic ['z'] 1 1, .rolloverTopic ['a'] 3 (2 ^ 64 - 1), .upsertNode 1 ['x']]

example : ((run ClusterState.init demo).topics.get? ['a']).map
    (fun t => (t.currentSegment, t.leaderNode, t.lastSealedEntryOffset,
               t.sealedSegments.get? 1, t.sealedSegments.get? 2, t.segmentLeaders.get? 3)) =
    some (3, 2, 12, some 5, some 7, some 2) := by rfl
example : (applyCmd (run ClusterState.init demo) (.rolloverTopic ['a'] 3 (2 ^ 64 - 1))).2 = .errOverflow := by
  decide
example : (applyBytes ClusterState.init [9, 0, 0, 0]).2 = .errDecode := by decide

end WalrusVerif.Props.C18
