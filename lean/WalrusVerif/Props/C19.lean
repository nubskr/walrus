import WalrusVerif.Lemmas.AdapterLemmas
import WalrusVerif.Lemmas.PlaneLog
/-!
# C19 — all nodes apply the same metadata commands in the same order  (partial)

Statement: across node crashes, restarts and message loss, the sequence of metadata commands applied on any node is a
prefix of the sequence applied on any other node that has applied at least as many, or vice versa; every proposal
reported as successful is eventually applied by every live node.

What decides the first sentence in the running system is two things: (a) openraft's core - it feeds every node's state
machine the committed entries of one agreed log, each exactly once per process lifetime, in index order; (b) octopii's
adapter between that core and the application (`MemStateMachine::apply`, storage.rs:315-347) - what it does with the
entries it is fed.  (a) is the vendored openraft crate, which cannot be built or run in this sandbox and is **not
modelled**: it appears below as the hypothesis "the entries fed to a node so far are a prefix of one sequence `G`"
(`G.take k`, cut into calls of `apply` in any way).  (b) is modelled (Model/Adapter.lean), tied to the code by the
correspondence run, and is what these theorems are about:

* what the application sees of what one node is fed: `C19_adapter_hands_over_every_command_in_order`,
  `C19_adapter_prefix_even_on_rejection`, `C19_local_failure_stops_the_node`;
* two nodes (or two lifetimes of one) fed prefixes of one committed sequence: `C19_partial`;
* the adapter's state: `C19_same_commands_same_state`, `C19_responders_do_not_matter`, `C19_last_applied_is_last_fed`;
* the data-plane model (C22/C23) has the property: `C19_plane_nodes_apply_prefixes_of_one_log`.

Not covered: the second sentence (liveness), everything that depends on openraft's replication and election logic,
the QUIC transport, snapshots (C20).
-/
namespace WalrusVerif.Props.C19
open WalrusVerif WalrusVerif.Adapter

/-- **The adapter hands the application every command it is fed, in order.**  Whatever entries openraft feeds the
adapter of a freshly started process, cut into calls of `apply` in any way, with or without responders: as long as
the application accepts the commands, the commands it has seen are exactly the commands among those entries, in
feeding order - nothing skipped, nothing doubled, nothing reordered. -/
theorem C19_adapter_hands_over_every_command_in_order (bs : List (List REntry)) (h : (applyBatches {} bs).2 = true) :
    (applyBatches {} bs).1.cmds = cmdsOf bs.flatten := by
  rw [applyBatches_eq] at h ⊢
  exact (applyAll_ok {} _ h).1

/-- ... and when the application rejects one, what it has seen is still a prefix of them (the Raft instance stops
there: a storage error is fatal) -/
theorem C19_adapter_prefix_even_on_rejection (bs : List (List REntry)) :
    (applyBatches {} bs).1.cmds <+: cmdsOf bs.flatten := by
  obtain ⟨d, hd, hp⟩ := applyAll_cmds {} bs.flatten
  rw [applyBatches_eq]; exact hd ▸ hp

/-- **C19, first sentence, given openraft's agreement (partial).**  `G` is the sequence of committed entries the
cluster agreed on (hypothesis: this is what openraft's core is trusted for - it is not modelled).  Node 1 has been fed
the first `k₁` of them and node 2 the first `k₂`, each cut into calls of `apply` in its own way (`b₁`, `b₂`), each from
an empty adapter (a fresh process; a restarted node is fed again from the start of its log), and every call succeeded
(`ok₁`, `ok₂`: the application rejected nothing).  Then the command sequence one of them has applied is a prefix of the
other's.  `ok₁`, `ok₂` are not used: this is `Adapter.cmds_comparable` at `{}`. -/
theorem C19_partial (G : List REntry) (k₁ k₂ : Nat) (b₁ b₂ : List (List REntry))
    (h₁ : b₁.flatten = G.take k₁) (h₂ : b₂.flatten = G.take k₂)
    (ok₁ : (applyBatches {} b₁).2 = true) (ok₂ : (applyBatches {} b₂).2 = true) :
    (applyBatches {} b₁).1.cmds <+: (applyBatches {} b₂).1.cmds ∨
    (applyBatches {} b₂).1.cmds <+: (applyBatches {} b₁).1.cmds :=
  cmds_comparable {} G k₁ k₂ b₁ b₂ h₁ h₂

/-- the key-value state is the replay of the commands seen, so it is a function of the state before and that command
sequence (after a call that succeeded; stated for one call, `applyBatches_eq` makes several calls one) -/
theorem applyAll_kv (es : List REntry) : ∀ s : SmSt, (applyAll s es).2.2 = true →
    kvReplay s.kv (cmdsOf es) = some (applyAll s es).1.kv :=
  fun s h => (applyAll_ok s es h).2.1

/-- **Same entries, same state.**  Two nodes fed the same entries `es` from a fresh adapter, each cut into calls in its
own way, are in the same adapter state: key-value state, membership, applied id, commands seen.  The statement is about
equal entry lists, responder flags included (who proposed what is `C19_responders_do_not_matter`); it does not say that
equal command sequences give equal states (`applyAll_kv` is the step towards that), and `ok₁`, `ok₂` are not needed. -/
theorem C19_same_commands_same_state (es : List REntry) (b₁ b₂ : List (List REntry))
    (h₁ : b₁.flatten = es) (h₂ : b₂.flatten = es)
    (ok₁ : (applyBatches {} b₁).2 = true) (ok₂ : (applyBatches {} b₂).2 = true) :
    (applyBatches {} b₁).1 = (applyBatches {} b₂).1 := by
  rw [applyBatches_eq, applyBatches_eq, h₁, h₂]

def stripResponders (es : List REntry) : List REntry := es.map fun e => { e with responder := false }

/-- **Responders do not matter.**  The node that proposed an entry hands the application's answer back to the client;
the nodes that got the entry by replication do not.  The state they end in is the same. -/
theorem C19_responders_do_not_matter (es : List REntry) : ∀ s : SmSt,
    (applyAll s (stripResponders es)).1 = (applyAll s es).1 ∧
    (applyAll s (stripResponders es)).2.2 = (applyAll s es).2.2 := by
  intro s
  fun_induction applyAll s es <;>
    simp_all only [stripResponders, List.map_cons, List.map_nil, applyAll, applyOne_strip, and_self]

/-- **What is reported as applied.**  After a successful call on a non-empty stream the adapter reports the id of the
stream's last entry as applied. -/
theorem C19_last_applied_is_last_fed (es : List REntry) (e : REntry) : ∀ s : SmSt,
    (applyAll s (es ++ [e])).2.2 = true → (applyAll s (es ++ [e])).1.lastApplied = some (e.index, e.term) :=
  fun s h => (applyAll_ok s _ h).2.2.1 e (by simp)

/-- **A node-local failure stops the node, it does not make it skip.**  With a failure armed (`hf`) and a command in
the stream (`hc`) the call returns the error.  That the commands taken are still a prefix of the commands fed (second
conjunct) is `applyAll_cmds`: it holds of every `s` and `es` and uses neither hypothesis.  (openraft shuts the Raft
instance down on the error; the restarted node is fed its log again from the start, `C19_partial`.) -/
theorem C19_local_failure_stops_the_node (s : SmSt) (es : List REntry) (hf : s.failNext = true)
    (hc : cmdsOf es ≠ []) :
    (applyAll s es).2.2 = false ∧ ∃ d, (applyAll s es).1.cmds = s.cmds ++ d ∧ d <+: cmdsOf es :=
  ⟨Bool.eq_false_iff.mpr fun h => hc ((applyAll_ok s es h).2.2.2 hf), applyAll_cmds s es⟩

/-! ### the same statement inside the data-plane model of C22/C23

`Model/Plane.lean` (tied to bucket.rs / controller / monitor by the schedule-for-schedule correspondence) builds in one
half of what Raft provides: a single command log, which `applyNext` indexes for every node.  The other half is proved:
task steps only append to it (`stepTask_logStep`), and after every schedule, rollover proposals in between, every node
holds `foldCmds` of a prefix of it. -/

open WalrusVerif.Plane in
/-- **Every node of the data-plane model has applied a prefix of the one command log, and holds exactly the metadata
that prefix leads to** - after any schedule, from any set-up built by `initWorld` / `createTopic`.  Hence the command
sequences applied on two nodes are prefix-related, and two nodes that applied equally many commands hold the same
metadata.  The content is `MdInv` after the schedule (conjuncts two to four); the first conjunct holds of any list and
any two numbers `a ≤ b`. -/
theorem C19_plane_nodes_apply_prefixes_of_one_log (w0 : World) (h0 : MdInv w0) (sched : List Act) (a b : Nat)
    (hab : ((runActs w0 sched).node a).applied ≤ ((runActs w0 sched).node b).applied) :
    let w := runActs w0 sched
    (w.log.take (w.node a).applied) <+: (w.log.take (w.node b).applied) ∧
    (w.node a).md = foldCmds (w.log.take (w.node a).applied) ∧
    (w.node b).md = foldCmds (w.log.take (w.node b).applied) ∧
    ((w.node a).applied = (w.node b).applied → (w.node a).md = (w.node b).md) := by
  intro w
  have h : MdInv w := runActs_invariant mdInv_act sched w0 h0
  refine ⟨List.take_prefix_take_left hab, (h a).2, (h b).2, ?_⟩
  intro e
  rw [(h a).2, (h b).2, e]

open WalrusVerif.Plane in
/-- the set-ups the correspondence runs start from (`Plane.setup`, written out) satisfy the hypothesis -/
theorem C19_plane_setups (n thresh : Nat) (topics : List (Name × Nat)) :
    MdInv (topics.foldl (fun w p => createTopic w p.1 p.2) (initWorld n thresh)) :=
  mdInv_setup n thresh topics

/-- non-vacuity: two nodes, a PUT through node 2 that triggers a rollover proposal; node 1 has applied all four log
entries, node 2 only three -/
example : ((Plane.runActs (Plane.createTopic (Plane.initWorld 2 1) ['a'] 1)
      [.spawn 1 (.putStart 2 ['a'] 7), .step 1, .step 1, .step 1, .step 1, .step 1, .step 1, .step 1, .apply 1]).log.length,
    ((Plane.runActs (Plane.createTopic (Plane.initWorld 2 1) ['a'] 1)
      [.spawn 1 (.putStart 2 ['a'] 7), .step 1, .step 1, .step 1, .step 1, .step 1, .step 1, .step 1, .apply 1]).node 1).applied,
    ((Plane.runActs (Plane.createTopic (Plane.initWorld 2 1) ['a'] 1)
      [.spawn 1 (.putStart 2 ['a'] 7), .step 1, .step 1, .step 1, .step 1, .step 1, .step 1, .step 1, .apply 1]).node 2).applied) = (4, 4, 3) := by
  decide +kernel

/-! Non-vacuity: a committed sequence with a membership change, a blank entry and five commands; node 1 (which
proposed entries 3 and 6) has been fed all of it in two calls, node 2 the first five entries one by one. -/
def demoG : List REntry :=
  [⟨1, 1, .membership 5, false⟩, ⟨2, 1, .blank, false⟩, ⟨3, 1, .normal (.set 1 7), true⟩, ⟨4, 1, .normal (.get 1), false⟩,
   ⟨5, 2, .normal (.set 2 9), false⟩, ⟨6, 2, .normal (.del 1), true⟩, ⟨7, 2, .normal (.get 2), false⟩]

example : (applyBatches {} [demoG.take 3, demoG.drop 3]).2 = true ∧
    (applyBatches {} ((stripResponders (demoG.take 5)).map fun e => [e])).2 = true ∧
    (applyBatches {} [demoG.take 3, demoG.drop 3]).1.cmds = [.set 1 7, .get 1, .set 2 9, .del 1, .get 2] ∧
    (applyBatches {} ((stripResponders (demoG.take 5)).map fun e => [e])).1.cmds = [.set 1 7, .get 1, .set 2 9] ∧
    (applyAll {} demoG).2.1 = [(3, .ok), (6, .ok)] := by decide

/-- a rejected command ends the call: the id of the rejected entry is reported as applied, the entries behind it are
not looked at -/
example : applyAll {} [⟨1, 1, .normal (.set 1 1), true⟩, ⟨2, 1, .normal .bad, true⟩, ⟨3, 1, .normal (.set 2 2), true⟩] =
    ({ lastApplied := some (2, 1), cmds := [.set 1 1, .bad], kv := [(1, 1)] }, [(1, .ok)], false) := by decide

/-- the application fails on this node at the second command: the call returns the error, the first command is applied,
the second and third are not -/
example : applyAll { failNext := false } [⟨1, 1, .normal (.set 1 1), false⟩] = ({ lastApplied := some (1, 1), cmds := [.set 1 1], kv := [(1, 1)] }, [], true) ∧
    applyAll { lastApplied := some (1, 1), cmds := [.set 1 1], kv := [(1, 1)], failNext := true }
      [⟨2, 1, .blank, false⟩, ⟨3, 1, .normal (.set 2 2), true⟩, ⟨4, 1, .normal (.set 3 3), false⟩] =
    ({ lastApplied := some (3, 1), cmds := [.set 1 1], kv := [(1, 1)] }, [], false) := by decide

end WalrusVerif.Props.C19
