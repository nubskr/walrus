import WalrusVerif.Props.C23
/-!
# C22 — every acknowledged PUT is delivered by GET exactly once, in order

*Statement.* For any interleaving of client PUTs and GETs on any nodes, segment rollovers and lease synchronisation,
every PUT answered OK is returned by exactly one GET on the topic.  GETs return a topic's acknowledged payloads in
acknowledgement order for a sequential producer, and a GET answers EMPTY only when every acknowledged PUT has
already been returned.

The property is **false of the code** (open findings `sealedCountStale`, `readerLagsMetadata`; `staleLeaseWrite` of
C23 feeds the first): the count a rollover records for the segment it seals is read from an in-memory counter
*before* the proposal is ordered, appends that pass the lease check later still land in that segment and are
acknowledged, and the reader leaves a sealed segment as soon as it has delivered the recorded count.
(`readerLagsMetadata` has no witness in Lean.)  `C22_counterexample` is a schedule of two concurrent PUTs after which one acknowledged payload is never returned,
although the topic is read until it answers EMPTY; `corpus/sealedCountStale.plprog` replays it on the real code.

What holds: on every schedule each engine queue holds exactly what was written to it, and what GETs were handed from it
is its consumed prefix - nothing twice, nothing invented, in write order (`C22_exactly_once_per_queue`; as a prefix
relation, `C22_delivered_prefix_of_written`); on a schedule that spawns no task already holding a payload, every
acknowledged payload is in such a queue (`C22_acked_are_stored`); `drain`, which the correspondence runs use, is such a
schedule (`drain_is_acts`).  That a reader's cursor reaches every entry is what fails.
-/
namespace WalrusVerif.Plane
open WalrusVerif

/-- the outputs of the `step` actions of a schedule -/
def outsOf (w : World) : List Act → List StepOut
  | [] => []
  | .step tid :: r => (stepTask w tid).2 :: outsOf (act w (.step tid)) r
  | a :: r => outsOf (act w a) r

/-- `staleLeaseSchedule` continued: task 1 is acknowledged, everything is applied everywhere, and node 1 reads the
topic until it answers EMPTY -/
def lostAckSchedule : List Act :=
  staleLeaseSchedule ++
  [.step 1, .step 1, .step 1, .apply 1, .step 1, .apply 2, .apply 2,
   .spawn 3 (.getStart 1 ta), .step 3, .step 3,
   .spawn 4 (.getStart 1 ta), .step 4, .step 4, .step 4]

/-- **C22 is false of the code.** Both PUTs are acknowledged (payload 2, then payload 1); reading the topic dry
returns payload 2 and then EMPTY: payload 1, written into the segment after its count had been recorded as 1,
is never returned.  (The second rollover also sealed segment 2 with the stale count 2.) -/
theorem C22_counterexample :
    let w := runActs (setup 2 1 [(ta, 1)]) lostAckSchedule
    w.acked = [2, 1] ∧ w.delivered = [(1, (ta, 1), 2)] ∧
    (outsOf (setup 2 1 [(ta, 1)]) lostAckSchedule).getLast? = some (.done .empty) ∧
    ((w.node 1).md.topics.get? ta).map (fun ts => (ts.currentSegment, ts.sealedSegments)) = some (3, [(2, 2), (1, 1)]) ∧
    (((w.node 1).queues.get? (ta, 1)).map (·.entries)) = some [2, 1] := by
  decide +kernel

/-- **C22, the part that holds on every schedule: exactly-once and order per segment queue.**  In every execution -
any cluster, any tasks, any interleaving of steps, applies and lease syncs - and for every node `e` and wal key `k`:
the engine queue of (`e`, `k`) holds exactly the payloads written to it, in write order; the payloads GETs were handed
from it are exactly its consumed prefix, in that order.  So no stored entry is ever returned twice, none is invented,
and within a segment the delivery order is the write order.  What the code does *not* guarantee is that the readers'
cursors reach every entry (`C22_counterexample`). -/
theorem C22_exactly_once_per_queue (n thresh : Nat) (topics : List (Name × Nat)) (acts : List Act) (e : Nat) (k : Key) :
    let w := runActs (setup n thresh topics) acts
    (qOf w e k).entries = wTo w e k ∧
    dFrom w e k = (wTo w e k).take (qOf w e k).consumed ∧
    (qOf w e k).consumed ≤ (wTo w e k).length := by
  have h := runActs_invariant qinv_act acts _ (qinv_setup n thresh topics) e k
  simp only
  exact ⟨h.1, by rw [← h.1]; exact h.2.1, by rw [← h.1]; exact h.2.2⟩

theorem C22_delivered_prefix_of_written (n thresh : Nat) (topics : List (Name × Nat)) (acts : List Act) (e : Nat) (k : Key) :
    dFrom (runActs (setup n thresh topics) acts) e k <+: wTo (runActs (setup n thresh topics) acts) e k := by
  have h := C22_exactly_once_per_queue n thresh topics acts e k
  simp only at h
  rw [h.2.1]
  exact List.take_prefix _ _

/-- the invariant is not vacuous: on the counterexample schedule, queue (node 1, segment 1 of `a`) was written
[2, 1] and delivered [2] -/
example : wTo (runActs (setup 2 1 [(ta, 1)]) lostAckSchedule) 1 (ta, 1) = [2, 1] ∧
    dFrom (runActs (setup 2 1 [(ta, 1)]) lostAckSchedule) 1 (ta, 1) = [2] := by decide +kernel

/-- **C22, second part that holds: an acknowledged PUT is stored**, on every schedule that spawns no task already
holding a payload (`hs`; without it `spawn 1 (.putAwait 0 5), step 1` acknowledges 5 with nothing written).  Every payload
whose PUT was answered OK was written to the engine queue of some (node, wal key) - and by `C22_exactly_once_per_queue` it
sits there, once, in write order, and is handed out at most once.  The model knows a PUT by its payload value: of two
PUTs with equal payloads the statement does not say which was written.  (Whether a reader's cursor ever reaches it is
what fails.) -/
theorem C22_acked_are_stored (n thresh : Nat) (topics : List (Name × Nat)) (acts : List Act) (hs : SpawnsFresh acts) :
    ∀ x ∈ (runActs (setup n thresh topics) acts).acked,
      ∃ ev ∈ (runActs (setup n thresh topics) acts).writes, ev.payload = x ∧
        x ∈ (qOf (runActs (setup n thresh topics) acts) ev.node ev.key).entries := by
  intro x hx
  obtain ⟨ht, _, ha⟩ := setup_blank n thresh topics
  have hA : AckInv (setup n thresh topics) := ⟨tasks_empty ht, by rw [ha]; nofun⟩
  obtain ⟨ev, hev, hp⟩ := (runActs_induction ackInv_act acts _ hs hA).2 x hx
  refine ⟨ev, hev, hp, ?_⟩
  rw [(C22_exactly_once_per_queue n thresh topics acts ev.node ev.key).1]
  exact List.mem_map.mpr ⟨ev, List.mem_filter.mpr ⟨hev, by simp only [BEq.rfl, Bool.and_self]⟩, hp⟩

/-- `lostAckSchedule` meets the hypothesis -/
example : SpawnsFresh lostAckSchedule := spawnsFreshB_sound _ (by decide)

/-! ### `drain` (used by the schedules of the correspondence runs) is a sequence of scheduler actions, so the
theorems about `runActs` cover it -/

/-- `drain` ends where `runActs` ends on some action list that meets the hypothesis of `C22_acked_are_stored` (the list
built here consists of `apply` and `step` actions; the statement does not say so) -/
theorem drain_is_acts (w : World) : ∃ acts, (drain w).1 = runActs w acts ∧ SpawnsFresh acts := reaches_drainRounds 400 w

end WalrusVerif.Plane
