import WalrusVerif.Lemmas.SnapshotLemmas
import WalrusVerif.Gen.Consts
/-!
# C20 — metadata replicas converge, including via snapshot transfer

Statement: a node that catches up by installing a snapshot built by another node ends up with
exactly the sender's application metadata as of the snapshot, and then stays equal to it after
applying the same subsequent commands.  A metadata snapshot restored into a fresh state machine
reproduces the original state exactly.

* Second sentence and the "stays equal" clause: **proved** for the application's own
  `snapshot`/`restore` (`C20_restore_snapshot`, `C20_stays_equal`, `C20_order_irrelevant`).
* First sentence through the Raft state-machine adapter: **false on this tree**
  (`C20_counterexample_adapterSnapshotsEmptyMap`): the adapter snapshots its own, never written,
  `BTreeMap` instead of the application state; the installing node's `restore` is handed 8 zero
  bytes, fails to decode them and keeps its old state.  Open finding `adapterSnapshotsEmptyMap`.
-/
namespace WalrusVerif.Props.C20
open WalrusVerif WalrusVerif.Meta WalrusVerif.Snap

/-- A snapshot restored into **any** state machine (in particular a fresh one) reproduces the
original state exactly — for every state whose numbers and encoded name lengths fit `u64` (`StateOK`), under a codec
whose decoder inverts its encoder (`hc`). -/
theorem C20_restore_snapshot (cd : Codec) (hc : cd.RoundTrips) (s fresh : ClusterState) (hs : StateOK cd s) :
    restore cd fresh (snapshot cd s) = (s, true) := by
  have h := decState_enc cd hc s hs []
  rw [List.append_nil] at h
  simp only [restore, snapshot, h]

/-- … and then stays equal to it under the same subsequent commands (any number of them). -/
theorem C20_stays_equal (cd : Codec) (hc : cd.RoundTrips) (s fresh : ClusterState) (hs : StateOK cd s)
    (cmds : List Cmd) :
    run (restore cd fresh (snapshot cd s)).1 cmds = run s cmds := by
  rw [C20_restore_snapshot cd hc s fresh hs]

/-- The order in which the sender's hash map iterates does not matter: two encodings that list
the same topics (distinct names) in different orders restore to states with identical topic lookups (after the round
trip this is `AMap.get?_perm`; the node table is not covered).
(`hd` is kept by every command: `Meta.nodup_keys_applyCmd`.) -/
theorem C20_order_irrelevant (cd : Codec) (hc : cd.RoundTrips) (s s' fresh : ClusterState)
    (hs : StateOK cd s) (hs' : StateOK cd s') (hp : List.Perm s.topics s'.topics)
    (hd : (s.topics.map (·.1)).Nodup) (name : Name) :
    (restore cd fresh (snapshot cd s)).1.topics.get? name =
      (restore cd fresh (snapshot cd s')).1.topics.get? name := by
  rw [C20_restore_snapshot cd hc s fresh hs, C20_restore_snapshot cd hc s' fresh hs']
  exact AMap.get?_perm hp hd name

/-- what the receiver in `C20_counterexample_adapterSnapshotsEmptyMap` runs into -/
theorem C20_bad_snapshot_rejected (cd : Codec) (s : ClusterState) (bs : Bytes) (h : decState cd bs = none) :
    restore cd s bs = (s, false) := by
  simp [restore, h]

/-- The adapter path: whatever the sender's state, the payload it builds makes the receiver's
`restore` fail, and the receiver keeps the state it had. -/
theorem C20_counterexample_adapterSnapshotsEmptyMap (cd : Codec) (sender receiver : ClusterState) :
    adapterInstall cd receiver (adapterBuild sender) = (receiver, false) := by
  have h0 : getU64 emptyMapBytes = some (0, []) := by decide
  have hd : decState cd emptyMapBytes = none := by
    unfold decState
    rw [h0]
    simp [decTopics, getU64, takeN]
  simp [adapterInstall, adapterBuild, h0, restore, hd]

/-- Hence convergence through the adapter fails for every sender whose state differs from the
receiver's (e.g. any sender with a topic and a fresh receiver). -/
theorem C20_adapter_diverges (cd : Codec) (sender receiver : ClusterState) (h : sender ≠ receiver) :
    (adapterInstall cd receiver (adapterBuild sender)).1 ≠ sender := by
  rw [C20_counterexample_adapterSnapshotsEmptyMap]
  exact fun e => h e.symm

/-- The two facts about `octopii/src/openraft/storage.rs` the adapter model rests on, as the translator regenerates
them into Gen/Consts on every run: `build_snapshot` serialises the adapter's own map (nothing writes that map,
`sm.snapshot()` is never called), and `install_snapshot` hands the re-encoded map to `restore`.  The statement is only
that both constants are `true`; `adapterBuild` and `adapterInstall` do not mention them, so a changed fact stops
this theorem from compiling and touches no other. -/
theorem C20_adapter_model_tied :
    Consts.ADAPTER_SNAPSHOTS_OWN_MAP = true ∧ Consts.ADAPTER_RESTORES_REENCODED_MAP = true := by decide

/-! The conclusions evaluated on a concrete codec and a state with a sealed segment.  (`asciiCodec` inverts its encoder on
names of code units below 256 only; no codec is proved `RoundTrips` and no state `StateOK` in this development.) -/
def asciiCodec : Codec :=
  { encName := fun s => s.map fun c => UInt8.ofNat c.toNat,
    decName := fun b => some (b.map fun x => Char.ofNat x.toNat) }

def demoState : ClusterState :=
  run ClusterState.init [.createTopic ['a'] 1, .rolloverTopic ['a'] 2 5, .upsertNode 1 ['x']]

example : (restore asciiCodec ClusterState.init (snapshot asciiCodec demoState)).2 = true := by decide +kernel
example : ((restore asciiCodec ClusterState.init (snapshot asciiCodec demoState)).1.topics.get? ['a']).map
    (fun t => (t.currentSegment, t.lastSealedEntryOffset, t.sealedSegments.get? 1)) = some (2, 5, some 5) := by
  decide +kernel
example : (adapterInstall asciiCodec ClusterState.init (adapterBuild demoState)).2 = false := by
  rw [C20_counterexample_adapterSnapshotsEmptyMap]

end WalrusVerif.Props.C20
