import WalrusVerif.Lemmas.PeekLemmas
import WalrusVerif.Lemmas.ParseLemmas
/-!
# C02 — non-consuming reads never change what later reads or counts see

Statement: a peek (checkpoint=false) or an offset-addressed batch read (explicit start offset)
never changes what any later read returns, the reported per-topic entry counts, or which stored
data the engine may reclaim.  A peek returns exactly the entries that an immediately following
consuming read with the same arguments returns.  Offset-addressed reads return only bytes of
entries that were appended to that topic, in append order.

Proved (entry-level model `AEng`, every state / every history unless said otherwise):
* `C02_batch_peek_equals_consume`, `C02_next_peek_equals_consume` — second sentence (the latter for
  every topic state satisfying the invariant `TInv`, which the engine's steps preserve: `step_sim`);
* `C02_batch_peek_later_outputs`, `C02_offset_read_later_outputs` — inserting a batch peek or an
  offset-addressed read (with checkpoint true or false) anywhere in a history leaves **every** later
  output unchanged (reads, counts, errors);
* `C02_next_peek_neutral` — a `read_next` peek leaves the log, the consumed index and the count
  unchanged and keeps `TInv` (it may re-encode the cursor `(i, used_i)` as `(i+1, 0)`);
* `C02_batch_peek_reclaim_neutral` (storage-level model `Eng`) — a batch read with checkpoint=false,
  cursor-based or offset-addressed, leaves files and reclamation trackers untouched (an
  offset-addressed read with checkpoint=true is not covered by the statement).
Not proved / known:
* the third sentence is decided by the oracle on the implementation only: `C02_offset_sound_partial` says no more than
  that an offset-addressed read leaves the state of `AEng` as it was;
* that a `read_next` peek leaves later outputs unchanged: it may re-encode the cursor, `AState.Equiv` does not identify
  the two encodings, so `later_outputs` does not apply; what is proved is `C02_next_peek_neutral`;
* a `read_next` peek that steps over an exhausted block marks that block as consumed in the reclamation bookkeeping.
-/
namespace WalrusVerif.Props.C02
open WalrusVerif WalrusVerif.Eng WalrusVerif.AEng

/-- a batch peek returns exactly what the consuming read with the same arguments returns, and
does not touch the topic — in **every** state -/
theorem C02_batch_peek_equals_consume (c : Cfg) (a : ATopic) (m : Nat) :
    (AEng.batchRead c a m false).2 = (AEng.batchRead c a m true).2 ∧ (AEng.batchRead c a m false).1 = a := by
  unfold AEng.batchRead
  simp only
  split <;> exact ⟨rfl, rfl⟩

/-- a `read_next` peek returns what the consuming `read_next` returns (every state satisfying `TInv`) -/
theorem C02_next_peek_equals_consume (c : Cfg) (hc : CfgOK c) (n : Nat) (a : ATopic) (k : Nat) (h : TInv c n a k) :
    (AEng.readNext c a false).2 = (AEng.readNext c a true).2 := by
  rw [(readNext_spec c hc.meta_pos false n a k h).1, (readNext_spec c hc.meta_pos true n a k h).1]

/-- … and leaves log, consumed index and count as they were -/
theorem C02_next_peek_neutral (c : Cfg) (hc : CfgOK c) (n : Nat) (a : ATopic) (k : Nat) (h : TInv c n a k) :
    log (AEng.readNext c a false).1 = log a ∧ (AEng.readNext c a false).1.count = a.count ∧
      TInv c n (AEng.readNext c a false).1 k := by
  have := readNext_spec c hc.meta_pos false n a k h
  simpa using this.2

/-- a batch peek anywhere in a history changes no later output -/
theorem C02_batch_peek_later_outputs (c : Cfg) (before after : List AOp) (t : Topic) (m : Nat) :
    (AEng.run c (before ++ .bread t m false none :: after)).drop (before.length + 1) =
      (AEng.run c (before ++ after)).drop before.length :=
  later_outputs c before after _ fun s => by
    show AState.Equiv (s.put t (AEng.batchRead c (s.topic t) m false).1) s
    rw [(C02_batch_peek_equals_consume c _ m).2]
    exact put_same_equiv s t

/-- an offset-addressed read (checkpoint true or false) anywhere in a history changes no later output -/
theorem C02_offset_read_later_outputs (c : Cfg) (before after : List AOp) (t : Topic) (m req : Nat) (cp : Bool) :
    (AEng.run c (before ++ .bread t m cp (some req) :: after)).drop (before.length + 1) =
      (AEng.run c (before ++ after)).drop before.length :=
  later_outputs c before after _ equiv_refl  -- the step is the identity: `C02_offset_sound_partial`

/-- storage level: a batch read with checkpoint=false (cursor-based or offset-addressed) leaves the
files and the reclamation trackers exactly as they were -/
theorem C02_batch_peek_reclaim_neutral (c : Cfg) (p : Proc) (i : Inst) (t : Topic) (m : Nat) (start : Option Nat) :
    (Eng.batchRead c p i t m false start).1 = p :=
  batchRead_peek_proc c p i t m start

/-- an offset-addressed read leaves the state of `AEng` as it was (by definition of `step`); about the
entries it returns, the rest of the third sentence, the statement says nothing -/
theorem C02_offset_sound_partial (c : Cfg) (s : AState) (t : Topic) (m req : Nat) (cp : Bool) :
    (AEng.step c s (.bread t m cp (some req))).1 = s := rfl

/-! Non-vacuity: peeks and offset reads interleaved with consuming reads (small geometry). -/
example : AEng.run smallCfg [.batch ⟨0, false⟩ [⟨3000, 1⟩, ⟨200, 2⟩, ⟨2000, 3⟩], .bread ⟨0, false⟩ 250 false none,
    .bread ⟨0, false⟩ 250 true (some 3300), .next ⟨0, false⟩ false, .bread ⟨0, false⟩ 250 true none,
    .next ⟨0, false⟩ true] =
    [.ok, .entries [(⟨3000, 1⟩, 0)], .entries [(⟨200, 2⟩, 0)], .entry (some ⟨3000, 1⟩),
     .entries [(⟨3000, 1⟩, 0)], .entry (some ⟨200, 2⟩)] := by decide +kernel

end WalrusVerif.Props.C02
