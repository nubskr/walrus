import WalrusVerif.Lemmas.AEngInv
/-! `read_next` of the entry-level model returns the next unconsumed entry of the log. -/
namespace WalrusVerif.AEng
open WalrusVerif WalrusVerif.Eng

variable {c : Cfg} {n : Nat} {a : ATopic} {k : Nat}

theorem TInv.sealed_entry (hm : 0 < c.metaSz) (h : TInv c n a k) {b : ABlk} (hb : a.chain[a.curIdx]? = some b)
    (hlt : ¬ a.curOff ≥ b.used c) :
    ∃ j, ∃ hj : j < b.es.length, entryAt c b.es a.curOff = some b.es[j] ∧ (log a)[k]? = some b.es[j] ∧
      PosDen c a.chain a.curIdx (a.curOff + raw c b.es[j]) (k + 1) := by
  obtain ⟨j, _, hoff, hk⟩ := h.sealedPos b hb
  obtain ⟨hj, hent, hnext⟩ := entryAt_boundary_lt c hm b.es j _ hoff (Nat.lt_of_not_le hlt)
  exact ⟨j, hj, hent, hk ▸ log_getElem_sealed a a.curIdx j b hb _ (List.getElem?_eq_getElem hj),
    hnext ▸ hk ▸ PosDen.inside hb hj⟩

theorem TInv.tail_entry (hm : 0 < c.metaSz) (h : TInv c n a k) (hidx : a.curIdx = a.chain.length) {w : ABlk}
    (hw : a.writer = some w) {off : Nat} (hoff : off = if a.tailId = w.id then a.tailOff else 0) :
    (off < w.used c →
      ∃ j, ∃ hj : j < w.es.length, entryAt c w.es off = some w.es[j] ∧ (log a)[k]? = some w.es[j] ∧
        off + raw c w.es[j] = bytes c (w.es.take (j + 1)) ∧ k + 1 = (chainEs a.chain).length + (j + 1)) ∧
    (¬ off < w.used c → (log a)[k]? = none) := by
  obtain ⟨j, hjl, ho, hk⟩ := h.tail hidx hw
  rw [← hoff] at ho
  refine ⟨fun hlt => ?_, fun hge => ?_⟩
  · obtain ⟨hj, hent, hnext⟩ := entryAt_boundary_lt c hm w.es j _ ho hlt
    exact ⟨j, hj, hent, by rw [hk, log_getElem_tail a w hw, List.getElem?_eq_getElem hj], hnext, by omega⟩
  · rw [hk, log_getElem_tail a w hw, boundary_end c hm w.es j hjl (ho ▸ Nat.le_of_not_lt hge)]
    exact List.getElem?_eq_none (Nat.le_refl _)

theorem readNextLoop_spec (hm : 0 < c.metaSz) (cp : Bool) (fuel : Nat) (h : TInv c n a k)
    (hf : a.chain.length - a.curIdx < fuel) :
    (readNextLoop c cp fuel a).2 = (log a)[k]? ∧ log (readNextLoop c cp fuel a).1 = log a ∧
      (readNextLoop c cp fuel a).1.count = (if cp = true ∧ ((log a)[k]?).isSome then a.count - 1 else a.count) ∧
      TInv c n (readNextLoop c cp fuel a).1 (if cp = true ∧ ((log a)[k]?).isSome then k + 1 else k) := by
  -- branches of `readNextLoop`: 1 out of fuel; 2–5 cursor in sealed block `b` (2 block exhausted, step on; 3 entry,
  -- consuming; 4 entry, peek; 5 no entry at a boundary); 6 chain used up, no writer; 7–10 tail block `w` (7 entry,
  -- consuming; 8 entry, peek; 9 no entry at a boundary; 10 tail used up)
  fun_induction readNextLoop c cp fuel a with
  | case1 => omega
  | case2 fuel a b hb hge ih =>
    have hidx := getElem?_lt_length' _ _ _ hb
    have hu := h.sealedNotTail hidx
    exact ih (.ofPosDen ((h.posDen hu).next hm hb hge) (fun _ => rfl) hu h.tailIdLt h.writerIdLt h.k_le)
      (by show a.chain.length - (a.curIdx + 1) < fuel; omega)
  | case3 _ a b hb hge e he hcp =>
    obtain ⟨j, hj, hent, hlog, hp⟩ := h.sealed_entry hm hb hge
    cases he.symm.trans hent
    have hidx := getElem?_lt_length' _ _ _ hb
    rw [hlog, if_pos ⟨hcp, rfl⟩, if_pos ⟨hcp, rfl⟩]
    exact ⟨rfl, rfl, rfl, TInv.ofPosDen hp (fun he => absurd he (Nat.ne_of_lt hidx)) (h.sealedNotTail hidx) h.tailIdLt
      h.writerIdLt (getElem?_lt_length' _ _ _ hlog)⟩
  | case4 _ a b hb hge e he hcp =>
    obtain ⟨j, hj, hent, hlog, _⟩ := h.sealed_entry hm hb hge
    cases he.symm.trans hent
    rw [if_neg fun hc => hcp hc.1, if_neg fun hc => hcp hc.1]
    exact ⟨hlog.symm, rfl, rfl, h⟩
  | case5 _ a b hb hge he =>
    obtain ⟨j, hj, hent, _⟩ := h.sealed_entry hm hb hge
    cases he.symm.trans hent
  | case6 _ a hb hw =>
    have hlog : (log a)[k]? = none := by
      have := h.tailPos (h.idx_eq hb)
      rw [hw] at this
      simp [this, log, tailEs, hw]
    rw [hlog, if_neg fun hc => Bool.false_ne_true hc.2, if_neg fun hc => Bool.false_ne_true hc.2]
    exact ⟨rfl, rfl, rfl, h⟩
  | case7 _ a hb w hw off hlt e he hcp =>
    obtain ⟨j, hj, hent, hlog, hnext, hk⟩ := (h.tail_entry hm (h.idx_eq hb) hw rfl).1 hlt
    cases he.symm.trans hent
    rw [hlog, if_pos ⟨hcp, rfl⟩, if_pos ⟨hcp, rfl⟩, hk]
    exact ⟨rfl, rfl, rfl, TInv.ofTail (h.idx_eq hb) (h.tailOff0 (h.idx_eq hb)) hw rfl hj hnext (h.writerIdLt w hw)⟩
  | case8 _ a hb w hw off hlt e he hcp =>
    obtain ⟨j, hj, hent, hlog, _⟩ := (h.tail_entry hm (h.idx_eq hb) hw rfl).1 hlt
    cases he.symm.trans hent
    rw [if_neg fun hc => hcp hc.1, if_neg fun hc => hcp hc.1]
    exact ⟨hlog.symm, rfl, rfl, h⟩
  | case9 _ a hb w hw off hlt he =>
    obtain ⟨j, hj, hent, _⟩ := (h.tail_entry hm (h.idx_eq hb) hw rfl).1 hlt
    cases he.symm.trans hent
  | case10 _ a hb w hw off hlt =>
    rw [(h.tail_entry hm (h.idx_eq hb) hw rfl).2 hlt, if_neg fun hc => Bool.false_ne_true hc.2,
      if_neg fun hc => Bool.false_ne_true hc.2]
    exact ⟨rfl, rfl, rfl, h⟩

theorem readNext_spec (c : Cfg) (hm : 0 < c.metaSz) (cp : Bool) (n : Nat) (a : ATopic) (k : Nat)
    (h : TInv c n a k) :
    (readNext c a cp).2 = (log a)[k]? ∧ log (readNext c a cp).1 = log a ∧
      (readNext c a cp).1.count = (if cp = true ∧ ((log a)[k]?).isSome then a.count - 1 else a.count) ∧
      TInv c n (readNext c a cp).1 (if cp = true ∧ ((log a)[k]?).isSome then k + 1 else k) :=
  readNextLoop_spec hm cp _ h (by omega)

end WalrusVerif.AEng
