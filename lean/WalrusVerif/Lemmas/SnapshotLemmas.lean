import WalrusVerif.Model.Snapshot
import WalrusVerif.Lemmas.AMapLemmas
import WalrusVerif.Lemmas.LittleEndian
/-! The snapshot codec inverts itself on states whose numbers fit `u64` (`StateOK`): every decoder of a counted list is
`decItems` with its two equations (`decItems_enc`), and decoding ignores what follows (`rest`). -/
namespace WalrusVerif.Snap
open WalrusVerif WalrusVerif.Meta

def U64 : Nat := 2 ^ 64

theorem encU64_eq (n : Nat) : encU64 n = encLE 8 n := map_range_eq_encLE 8 n

theorem getU64_enc (n : Nat) (h : n < U64) (rest : Bytes) : getU64 (encU64 n ++ rest) = some (n, rest) := by
  have := takeN_append (encU64 n) rest
  rw [encU64_eq, encLE_length] at this
  simp only [getU64, encU64_eq, this, leNat_encLE]
  rw [Nat.mod_eq_of_lt (Nat.lt_of_lt_of_eq h (by decide))]

/-- the codec assumption: UTF-8 decoding inverts encoding -/
def Codec.RoundTrips (cd : Codec) : Prop := ∀ s, cd.decName (cd.encName s) = some s

theorem decStr_enc (cd : Codec) (hc : cd.RoundTrips) (s : Name) (hl : (cd.encName s).length < U64) (rest : Bytes) :
    decStr cd (encStr cd s ++ rest) = some (s, rest) := by
  simp [decStr, encStr, getU64_enc _ hl, takeN_append, hc s]

/-- A decoder of `n` items inverts the concatenated encodings of a list whose items satisfy `P`.  `dec` is any
function with the two defining equations that `decPairsNN`, `decTopics` and `decNodes` share (`hs`: reading one
item encoded by `enc` and then `n` more). -/
theorem decItems_enc {α : Type} (dec : Nat → Bytes → Option (List α × Bytes)) (enc : α → Bytes) (P : α → Prop)
    (h0 : ∀ bs, dec 0 bs = some ([], bs))
    (hs : ∀ n x l bs bs', P x → dec n bs = some (l, bs') → dec (n + 1) (enc x ++ bs) = some (x :: l, bs'))
    (l : List α) (hl : ∀ x ∈ l, P x) (rest : Bytes) :
    dec l.length (l.flatMap enc ++ rest) = some (l, rest) := by
  induction l with
  | nil => exact h0 rest
  | cons x r ih =>
    rw [List.flatMap_cons, List.append_assoc]
    exact hs _ _ _ _ _ (hl x (by simp)) (ih fun y hy => hl y (by simp [hy]))

def PairsOK (m : List (Nat × Nat)) : Prop := ∀ p ∈ m, p.1 < U64 ∧ p.2 < U64

theorem decPairsNN_enc (m : List (Nat × Nat)) (hm : PairsOK m) (rest : Bytes) :
    decPairsNN m.length ((m.flatMap fun (k, v) => encU64 k ++ encU64 v) ++ rest) = some (m, rest) :=
  decItems_enc decPairsNN _ _ (fun _ => rfl)
    (fun _ _ _ _ _ hx h => by simp [decPairsNN, getU64_enc _ hx.1, getU64_enc _ hx.2, h]) m hm rest

theorem decMapNN_enc (m : AMap Nat Nat) (hm : PairsOK m) (hl : m.length < U64) (rest : Bytes) :
    decMapNN (encMapNN m ++ rest) = some (m, rest) := by
  simp [decMapNN, encMapNN, getU64_enc _ hl, decPairsNN_enc m hm]

/-- the topic is one bincode writes down faithfully: every number is a Rust `u64` and every map length a `usize`, each
encoded in 8 bytes -/
structure TopicOK (t : TopicState) : Prop where
  cur : t.currentSegment < U64
  ldr : t.leaderNode < U64
  off : t.lastSealedEntryOffset < U64
  sealed : PairsOK t.sealedSegments
  sealedLen : t.sealedSegments.length < U64
  leaders : PairsOK t.segmentLeaders
  leadersLen : t.segmentLeaders.length < U64

theorem decTopic_enc (t : TopicState) (ht : TopicOK t) (rest : Bytes) :
    decTopic (encTopic t ++ rest) = some (t, rest) := by
  simp [decTopic, encTopic, getU64_enc _ ht.cur, getU64_enc _ ht.ldr, getU64_enc _ ht.off,
    decMapNN_enc _ ht.sealed ht.sealedLen, decMapNN_enc _ ht.leaders ht.leadersLen]

def TopicsOK (cd : Codec) (l : List (Name × TopicState)) : Prop :=
  ∀ p ∈ l, (cd.encName p.1).length < U64 ∧ TopicOK p.2

theorem decTopics_enc (cd : Codec) (hc : cd.RoundTrips) (l : List (Name × TopicState)) (hl : TopicsOK cd l)
    (rest : Bytes) :
    decTopics cd l.length ((l.flatMap fun (n, t) => encStr cd n ++ encTopic t) ++ rest) = some (l, rest) :=
  decItems_enc (decTopics cd) _ _ (fun _ => rfl)
    (fun _ _ _ _ _ hx h => by simp [decTopics, decStr_enc cd hc _ hx.1, decTopic_enc _ hx.2, h]) l hl rest

def NodesOK (cd : Codec) (l : List (Nat × Name)) : Prop :=
  ∀ p ∈ l, p.1 < U64 ∧ (cd.encName p.2).length < U64

theorem decNodes_enc (cd : Codec) (hc : cd.RoundTrips) (l : List (Nat × Name)) (hl : NodesOK cd l)
    (rest : Bytes) :
    decNodes cd l.length ((l.flatMap fun (id, a) => encU64 id ++ encStr cd a) ++ rest) = some (l, rest) :=
  decItems_enc (decNodes cd) _ _ (fun _ => rfl)
    (fun _ _ _ _ _ hx h => by simp [decNodes, getU64_enc _ hx.1, decStr_enc cd hc _ hx.2, h]) l hl rest

/-- the same for a whole state.  A hypothesis of the C20 theorems: nothing derives it for the states `applyCmd` reaches
(`C18_counters_in_range` gives `TopicOK.cur` and `TopicOK.off`). -/
structure StateOK (cd : Codec) (s : ClusterState) : Prop where
  topics : TopicsOK cd s.topics
  topicsLen : s.topics.length < U64
  nodes : NodesOK cd s.nodes
  nodesLen : s.nodes.length < U64

/-- `decState` does not look at what follows the encoded state -/
theorem decState_enc (cd : Codec) (hc : cd.RoundTrips) (s : ClusterState) (hs : StateOK cd s) (rest : Bytes) :
    decState cd (encState cd s ++ rest) = some s := by
  simp [decState, encState, getU64_enc _ hs.topicsLen, decTopics_enc cd hc _ hs.topics,
    getU64_enc _ hs.nodesLen, decNodes_enc cd hc _ hs.nodes]

end WalrusVerif.Snap
