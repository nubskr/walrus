import WalrusVerif.Model.LogStoreFault
import WalrusVerif.Lemmas.AMapLemmas
/-! The log store writes ahead (C21): an operation other than `open` appends `written`/`pwritten` to the logs, and what it
does to the store's memory and to the acknowledged state is the replay of those records (`stepG_writeAhead`); `open`
reads the logs back (`stepG_open`).  Hence the logs always hold the acknowledged state (`Inv`), whatever reader `open` uses.
`stepFault_eq` says what an operation leaves in the log when one of its record writes fails: the records before that one,
of an operation that is not acknowledged, so `Inv` need not hold afterwards. -/
namespace WalrusVerif.LogStore
open WalrusVerif

theorem replay_append (m : Mem) (a b : List Rec) : replay m (a ++ b) = replay (replay m a) b := by
  simp [replay, List.foldl_append]

theorem replay_entries (m : Mem) (es : List Ent) : replay m (es.map Rec.entry) = memAppend m es := by
  induction es generalizing m with
  | nil => rfl
  | cons e r ih => exact ih _

theorem Wal.foldl_append {α : Type} (w : Wal α) (rs : List α) :
    rs.foldl Wal.append w = { w with recs := w.recs ++ rs } := by
  induction rs generalizing w with
  | nil => simp
  | cons r rs ih => rw [List.foldl_cons, ih]; simp [Wal.append]

theorem peersOf_append (m : AMap Nat Nat) (a b : List (Nat × Nat)) : peersOf m (a ++ b) = peersOf (peersOf m a) b := by
  simp [peersOf, List.foldl_append]

theorem get?_peersOf (m : AMap Nat Nat) (rs : List (Nat × Nat)) (k : Nat) :
    (peersOf m rs).get? k = ((peersOf AMap.empty rs).get? k).or (m.get? k) := by
  induction rs generalizing m with
  | nil => rfl
  | cons r rs ih =>
    show (peersOf (m.insert r.1 r.2) rs).get? k = ((peersOf (AMap.insert AMap.empty r.1 r.2) rs).get? k).or _
    rw [ih, ih (AMap.insert _ _ _), Option.or_assoc, AMap.get?_insert, AMap.get?_insert]
    split <;> rfl

/-- what `open` may use to read a log back.  First conjunct: the log keeps its records; second: what is returned is a
suffix of them. -/
def ReaderOk {α : Type} (rd : Wal α → List α × Wal α) : Prop :=
  ∀ w, (rd w).2.recs = w.recs ∧ ∃ c, (rd w).1 = w.recs.drop c

theorem readAll_ok {α : Type} : ReaderOk (Wal.readAll (α := α)) := fun w => ⟨rfl, w.consumed, rfl⟩
theorem readFromStart_ok {α : Type} : ReaderOk (Wal.readFromStart (α := α)) := fun w => ⟨rfl, 0, by simp [Wal.readFromStart]⟩

/-- the logs hold the acknowledged state: replaying *all* of them gives it -/
structure Inv (n : Node) (a : Ack) : Prop where
  log : replay {} n.wal.recs = a.mem
  peers : ∀ k, (peersOf AMap.empty n.pwal.recs).get? k = a.peers.get? k
  /-- an address the open store knows is acknowledged.  `peer` needs it: finding the address it is given in the store's
  map it writes nothing and answers ok, and the acknowledged state gains nothing only because it had the address. -/
  livePeers : ∀ lv, n.live = some lv → ∀ k v, lv.peers.get? k = some v → a.peers.get? k = some v

/-- the open store reports the acknowledged state -/
def LiveOk (n : Node) (a : Ack) : Prop :=
  ∀ lv, n.live = some lv → lv.mem = a.mem ∧ ∀ k, lv.peers.get? k = a.peers.get? k

theorem inv_init : Inv {} {} := ⟨rfl, fun _ => rfl, fun _ h => by simp at h⟩

/-- the records an operation writes to the Raft log when the store's memory is `m` -/
def logged (m : Mem) : Op → List Rec
  | .append es => es.map .entry
  | .truncate l => [.truncated l]
  | .purge l => if optLe m.purged l then [.purged l] else []
  | .vote v => [.vote v]
  | .committed c => [.committed c]
  | _ => []

/-- what an operation appends to the Raft log (`written`) and to the peer log (`pwritten`): nothing when the store is
closed -/
def written (n : Node) (op : Op) : List Rec :=
  match n.live with
  | some lv => logged lv.mem op
  | none => []

def pwritten (n : Node) : Op → List (Nat × Nat)
  | .peer id port =>
    match n.live with
    | some lv => if lv.peers.get? id = some port then [] else [(id, port)]
    | none => []
  | _ => []

/-- **Write-ahead**, of a step from `n` to `n'` with outcome `o` by an operation other than `open`: what it does to the
store's memory and to any acknowledged state `a` is the replay of exactly the records it appends. -/
structure WriteAhead (n : Node) (op : Op) (n' : Node) (o : Out) : Prop where
  wal : n'.wal = { n.wal with recs := n.wal.recs ++ written n op }
  pwal : n'.pwal = { n.pwal with recs := n.pwal.recs ++ pwritten n op }
  live : ∀ lv', n'.live = some lv' → ∃ lv, n.live = some lv ∧
    lv'.mem = replay lv.mem (written n op) ∧ lv'.peers = peersOf lv.peers (pwritten n op)
  ackMem : ∀ a, (ackStep a op o).mem = replay a.mem (written n op)
  /-- the hypothesis is `Inv.livePeers` -/
  ackPeers : ∀ a, (∀ lv, n.live = some lv → ∀ k v, lv.peers.get? k = some v → a.peers.get? k = some v) →
    ∀ k, (ackStep a op o).peers.get? k = (peersOf a.peers (pwritten n op)).get? k

/-- every operation but `open`, which is `stepG_open` -/
theorem stepG_writeAhead (rl rp) (n : Node) {op : Op} (h : op ≠ .open_) :
    WriteAhead n op (stepG rl rp n op).1 (stepG rl rp n op).2 := by
  suffices hs : _ ∧ _ ∧ _ ∧ _ ∧ _ from ⟨hs.1, hs.2.1, hs.2.2.1, hs.2.2.2.1, hs.2.2.2.2⟩
  -- with `foldl Wal.append` in place of `recs ++ _` every component computes once the store and the operation are
  -- known: `[]` and `[r]` reduce, where `recs ++ []` does not
  rw [← Wal.foldl_append, ← Wal.foldl_append]
  obtain ⟨_ | lv, wal, pwal⟩ := n
  · cases op <;> first | exact ⟨rfl, rfl, fun _ => nofun, fun _ => rfl, fun _ _ _ => rfl⟩ | exact absurd rfl h
  · cases op with
    | open_ => exact absurd rfl h
    | restart | kill => exact ⟨rfl, rfl, fun _ => nofun, fun _ => rfl, fun _ _ _ => rfl⟩
    | state | truncate | vote | committed =>
      exact ⟨rfl, rfl, fun _ e => ⟨lv, rfl, by cases e; exact ⟨rfl, rfl⟩⟩, fun _ => rfl, fun _ _ _ => rfl⟩
    | append es =>
      exact ⟨rfl, rfl, fun _ e => ⟨lv, rfl, by cases e; exact ⟨(replay_entries ..).symm, rfl⟩⟩,
        fun _ => (replay_entries ..).symm, fun _ _ _ => rfl⟩
    | purge l =>
      by_cases hp : optLe lv.mem.purged l = true <;> simp only [stepG, written, logged, memPurge, hp, if_true] <;>
        exact ⟨rfl, rfl, fun _ e => ⟨lv, rfl, by cases e; exact ⟨rfl, rfl⟩⟩, fun _ => rfl, fun _ _ _ => rfl⟩
    | peer id port =>
      by_cases hg : lv.peers.get? id = some port <;> simp only [stepG, pwritten, hg, if_true, if_false]
      · -- the address is the one the store has: nothing is written, and by `hsub` it is acknowledged already
        refine ⟨rfl, rfl, fun _ e => ⟨lv, rfl, by cases e; exact ⟨rfl, rfl⟩⟩, fun _ => rfl, fun a hsub k => ?_⟩
        show (a.peers.insert id port).get? k = a.peers.get? k
        rw [AMap.get?_insert]; split
        · subst_vars; exact (hsub lv rfl _ _ hg).symm
        · rfl
      · exact ⟨rfl, rfl, fun _ e => ⟨lv, rfl, by cases e; exact ⟨rfl, rfl⟩⟩, fun _ => rfl, fun _ _ _ => rfl⟩

/-- `open`, the one operation `WriteAhead` does not describe: each log becomes what its reader leaves of it (the same
records, `ReaderOk`), and the store starts from the replay of what the readers return. -/
theorem stepG_open (rl rp) (n : Node) : stepG rl rp n .open_ =
    ({ live := some { mem := replay {} (rl n.wal).1, peers := peersOf AMap.empty (rp n.pwal).1 },
       wal := (rl n.wal).2, pwal := (rp n.pwal).2 }, .ok) := rfl

theorem inv_step (rl : Wal Rec → List Rec × Wal Rec) (rp : Wal (Nat × Nat) → List (Nat × Nat) × Wal (Nat × Nat))
    (hl : ReaderOk rl) (hp : ReaderOk rp) (n : Node) (a : Ack) (op : Op) (h : Inv n a) :
    Inv (stepG rl rp n op).1 (ackStep a op (stepG rl rp n op).2) := by
  by_cases ho : op = .open_
  · subst ho
    rw [stepG_open]
    refine ⟨(hl n.wal).1 ▸ h.log, (hp n.pwal).1 ▸ h.peers, ?_⟩
    rintro _ ⟨⟩ k v hk
    -- what a suffix of the records says about a peer is what the whole log says
    obtain ⟨c, hc⟩ := (hp n.pwal).2
    have hk : (peersOf AMap.empty (n.pwal.recs.drop c)).get? k = some v := hc ▸ hk
    show a.peers.get? k = some v
    rw [← h.peers, ← List.take_append_drop c n.pwal.recs, peersOf_append, get?_peersOf, hk]; rfl
  · have s := stepG_writeAhead rl rp n ho
    refine ⟨?_, fun k => ?_, fun lv' e k v hk => ?_⟩
    · rw [s.wal, replay_append, h.log, s.ackMem]
    · rw [s.pwal, s.ackPeers a h.livePeers, peersOf_append, get?_peersOf, get?_peersOf a.peers, h.peers]
    · obtain ⟨lv, e, -, hq⟩ := s.live lv' e
      rw [hq, get?_peersOf] at hk
      rw [s.ackPeers a h.livePeers, get?_peersOf]
      cases hc : (peersOf AMap.empty (pwritten n op)).get? k with
      | some w => rw [hc] at hk; exact hk
      | none => rw [hc] at hk; exact h.livePeers lv e k v hk

theorem liveOk_step (rl : Wal Rec → List Rec × Wal Rec) (rp : Wal (Nat × Nat) → List (Nat × Nat) × Wal (Nat × Nat))
    (n : Node) (a : Ack) (op : Op) (hi : Inv n a) (h : LiveOk n a)
    (hopen : op = .open_ → (rl n.wal).1 = n.wal.recs ∧ (rp n.pwal).1 = n.pwal.recs) :
    LiveOk (stepG rl rp n op).1 (ackStep a op (stepG rl rp n op).2) := by
  by_cases ho : op = .open_
  · subst ho
    rw [stepG_open, (hopen rfl).1, (hopen rfl).2]
    rintro _ ⟨⟩
    exact ⟨hi.log, hi.peers⟩
  · have s := stepG_writeAhead rl rp n ho
    intro lv' e
    obtain ⟨lv, e, hq, hr⟩ := s.live lv' e
    refine ⟨by rw [hq, s.ackMem, (h lv e).1], fun k => ?_⟩
    rw [hr, s.ackPeers a hi.livePeers, get?_peersOf, get?_peersOf a.peers, (h lv e).2]

theorem runG_inv (rl : Wal Rec → List Rec × Wal Rec) (rp : Wal (Nat × Nat) → List (Nat × Nat) × Wal (Nat × Nat))
    (hl : ReaderOk rl) (hp : ReaderOk rp) (ops : List Op) (n : Node) (a : Ack) (h : Inv n a) :
    Inv (runG (stepG rl rp) n a ops).1 (runG (stepG rl rp) n a ops).2 := by
  induction ops generalizing n a with
  | nil => exact h
  | cons op r ih => exact ih _ _ (inv_step rl rp hl hp n a op h)

theorem run_liveOk (ops : List Op) (n : Node) (a : Ack) (hi : Inv n a) (hl : LiveOk n a) (hq : quirkFree n ops = true) :
    LiveOk (run n a ops).1 (run n a ops).2 := by
  induction ops generalizing n a with
  | nil => exact hl
  | cons op r ih =>
    simp only [quirkFree, Bool.and_eq_true, Bool.not_eq_true'] at hq
    refine ih _ _ (inv_step _ _ readAll_ok readAll_ok n a op hi) ?_ hq.2
    refine liveOk_step _ _ n a op hi hl ?_
    intro ho
    subst ho
    have := hq.1
    simp only [quirkReadAllConsumes, Bool.or_eq_false_iff, decide_eq_false_iff_not, Nat.not_lt, Nat.le_zero_eq] at this
    simp [Wal.readAll, this.1, this.2]

theorem runNC_liveOk (ops : List Op) (n : Node) (a : Ack) (hi : Inv n a) (hl : LiveOk n a) :
    LiveOk (runNC n a ops).1 (runNC n a ops).2 := by
  induction ops generalizing n a with
  | nil => exact hl
  | cons op r ih =>
    refine ih _ _ (inv_step _ _ readFromStart_ok readFromStart_ok n a op hi) ?_
    exact liveOk_step _ _ n a op hi hl (fun _ => ⟨rfl, rfl⟩)

theorem consumed_step_of_ne_open (n : Node) (op : Op) (h : op ≠ .open_) :
    (step n op).1.wal.consumed = n.wal.consumed ∧ (step n op).1.pwal.consumed = n.pwal.consumed := by
  have s := stepG_writeAhead Wal.readAll Wal.readAll n h
  rw [step, s.wal, s.pwal]; exact ⟨rfl, rfl⟩

theorem consumed_run_no_open (ops : List Op) (n : Node) (a : Ack) (hno : ∀ op ∈ ops, op ≠ .open_) :
    (run n a ops).1.wal.consumed = n.wal.consumed ∧ (run n a ops).1.pwal.consumed = n.pwal.consumed := by
  induction ops generalizing n a with
  | nil => exact ⟨rfl, rfl⟩
  | cons op r ih =>
    have h1 := consumed_step_of_ne_open n op (hno op List.mem_cons_self)
    have h2 := ih (step n op).1 (ackStep a op (step n op).2) (fun o ho => hno o (List.mem_cons_of_mem _ ho))
    exact ⟨h2.1.trans h1.1, h2.2.trans h1.2⟩

def CursorsOk (n : Node) : Prop := n.wal.consumed ≤ n.wal.recs.length ∧ n.pwal.consumed ≤ n.pwal.recs.length

theorem cursorsOk_step (n : Node) (op : Op) (h : CursorsOk n) : CursorsOk (step n op).1 := by
  by_cases ho : op = .open_
  · subst ho
    rw [step, stepG_open]
    -- `read_all` leaves each cursor at the end
    exact ⟨Nat.le_refl _, Nat.le_refl _⟩
  · have s := stepG_writeAhead Wal.readAll Wal.readAll n ho
    unfold CursorsOk at *
    rw [step, s.wal, s.pwal]
    simp only [List.length_append]
    omega

/-- a write failure in the `(k+1)`-th record: the operation fails iff it writes more than `k` records, and then the
first `k` of them reach the log (the memory has changed already) -/
theorem stepFault_eq (n : Node) (lv : Live) (op : Op) (k : Nat) (hv : n.live = some lv) :
    stepFault n op k =
      if k < (logged lv.mem op).length then
        ({ n with live := some { lv with mem := replay lv.mem (logged lv.mem op) },
                  wal := { n.wal with recs := n.wal.recs ++ (logged lv.mem op).take k } }, none, none)
      else ((step n op).1, some (step n op).2, some (k - (logged lv.mem op).length)) := by
  rw [← Wal.foldl_append]
  obtain ⟨_, wal, pwal⟩ := n
  cases hv
  -- what is left computes: `k = 0` against `k < 1` once `k` is `0` or a successor
  cases op with
  | append es => simp only [stepFault, logged, List.length_map, ← List.map_take, replay_entries]; rfl
  | purge l =>
    by_cases hp : optLe lv.mem.purged l = true <;> simp only [stepFault, logged, memPurge, hp, if_true] <;>
      cases k <;> rfl
  | truncate | vote | committed => cases k <;> rfl
  | _ => rfl

/-- `hlog` is the `log` field of `Inv`: the peer log plays no part. -/
theorem failed_then_reopen (n : Node) (a : Ack) (lv : Live) (op : Op) (k : Nat)
    (hlog : replay {} n.wal.recs = a.mem) (hv : n.live = some lv) (hc : n.wal.consumed = 0)
    (hk : k < (logged lv.mem op).length) :
    (stepFault n op k).2.1 = none ∧
    ((step (step (stepFault n op k).1 .kill).1 .open_).1.live.map (·.mem)) =
      some (replay a.mem ((logged lv.mem op).take k)) := by
  rw [stepFault_eq n lv op k hv, if_pos hk]
  refine ⟨rfl, ?_⟩
  simp only [step, stepG, openWith, Wal.readAll, Option.map_some, hc, List.drop_zero, replay_append, hlog]

end WalrusVerif.LogStore
