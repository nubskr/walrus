import WalrusVerif.Lemmas.AEngPlan
/-! Cursor-based batch read of the entry-level model: returns a prefix of the unconsumed log and
moves the cursor by exactly what it returned. -/
namespace WalrusVerif.AEng
open WalrusVerif WalrusVerif.Eng

variable {c : Cfg} {n : Nat} {a : ATopic} {k : Nat}

theorem tailPlan_good {g : Nat} (ht : TailDen c a g) : Good c a g (tailPlan c a) := by
  unfold tailPlan
  unfold TailDen at ht
  cases hw : a.writer with
  | none => exact Good.nil _
  | some w =>
    rw [hw] at ht
    obtain ⟨j, hj, ho, rfl⟩ := ht
    simp only [ho]
    split
    · have hr : RangeOK c a ⟨w.es, bytes c (w.es.take j), w.used c, true, 0, w.id⟩ (chainEs a.chain).length j :=
        ⟨hj, rfl, Nat.le_refl _, fun j' e he => by rw [log_getElem_tail a w hw j']; exact he, ⟨w, hw, rfl, rfl, rfl⟩⟩
      exact Good.cons _ _ [] _ j hr rfl (fun h => absurd rfl h) (Good.nil _)
    · exact Good.nil _

theorem statefulPlan_good (c : Cfg) (hm : 0 < c.metaSz) (n : Nat) (a : ATopic) (k : Nat) (h : TInv c n a k)
    (maxB : Nat) : Good c a k (statefulPlan c a maxB) := by
  rcases Nat.lt_or_ge a.curIdx a.chain.length with hlt | hge
  · have hu := h.sealedNotTail hlt
    obtain ⟨news, hplan, hgood⟩ := planLoop_good c hm a maxB (a.chain.length + 1) ⟨a.curIdx, a.curOff, 0, 0, []⟩ k
      (Nat.le_refl _) (h.posDen hu)
    rw [statefulPlan_eq]
    simp only [hplan, List.nil_append]
    exact hgood _ (fun hl => if_neg (Nat.not_le.mpr hl)) fun hge => by rw [if_pos hge]; exact tailPlan_good (.unread hu)
  · have hidx := Nat.le_antisymm h.idx_le hge
    rw [statefulPlan_at_end c maxB hidx]
    exact tailPlan_good (h.tailDen hidx)

theorem psinv_init (c : Cfg) (a : ATopic) (k : Nat) (hk : k ≤ (log a).length) : PSInv c a k {} :=
  ⟨by simp, rfl, rfl, by simpa using hk, fun h => absurd h (Nat.lt_irrefl 0)⟩

theorem tinv_commit (h : TInv c n a k) {ps : APState} (hs : PSInv c a k ps) (hp : ps.parsed > 0) :
    TInv c n (commit a ps) (k + ps.parsed) ∧ log (commit a ps) = log a ∧ (commit a ps).count = a.count := by
  have hpos := hs.pos hp
  unfold PosOK at hpos
  unfold commit
  cases hst : ps.sawTail <;> simp only [hst, if_true, Bool.false_eq_true, if_false] at hpos ⊢
  · obtain ⟨b, j, hb, hcur, hj, ho, hg⟩ := hpos
    have hfl := getElem?_lt_length' _ _ _ hb
    have hp : PosDen c a.chain ps.finalIdx ps.finalOff (k + ps.parsed) := hg ▸ ho ▸ PosDen.inside hb hj
    exact ⟨TInv.ofPosDen hp (fun he => absurd he (Nat.ne_of_lt hfl)) (h.sealedNotTail (Nat.lt_of_le_of_lt hcur hfl))
      h.tailIdLt h.writerIdLt hs.inLog, rfl, trivial⟩
  · obtain ⟨w, j, hw, hid, hj, ho, hg⟩ := hpos
    exact ⟨hg ▸ TInv.ofTail rfl rfl hw hid hj ho (h.writerIdLt w hw), rfl, trivial⟩

theorem finishBatch_spec (c : Cfg) (n : Nat) (a : ATopic) (k : Nat) (h : TInv c n a k) (ps : APState)
    (hs : PSInv c a k ps) (cp : Bool) :
    log (finishBatch a ps cp) = log a ∧
      (finishBatch a ps cp).count = (if cp = true then a.count - ps.parsed else a.count) ∧
      TInv c n (finishBatch a ps cp) (if cp = true then k + ps.parsed else k) := by
  cases cp with
  | false => exact ⟨rfl, rfl, h⟩
  | true =>
    have hc : TInv c n (if ps.parsed > 0 then commit a ps else a) (k + ps.parsed) ∧
        log (if ps.parsed > 0 then commit a ps else a) = log a ∧
        (if ps.parsed > 0 then commit a ps else a).count = a.count := by
      split
      · exact tinv_commit h hs ‹_›
      · rw [show ps.parsed = 0 by omega]; exact ⟨h, rfl, rfl⟩
    exact ⟨hc.2.1, congrArg (· - ps.parsed) hc.2.2, hc.1.count_irrel _⟩

theorem batchRead_spec (c : Cfg) (hm : 0 < c.metaSz) (n : Nat) (a : ATopic) (k : Nat) (h : TInv c n a k)
    (maxB : Nat) (cp : Bool) :
    ∃ m, (batchRead c a maxB cp).2 = (((log a).drop k).take m).map (·, 0) ∧ (batchRead c a maxB cp).2.length = m ∧
      k + m ≤ (log a).length ∧ log (batchRead c a maxB cp).1 = log a ∧
      (batchRead c a maxB cp).1.count = (if cp = true then a.count - m else a.count) ∧
      TInv c n (batchRead c a maxB cp).1 (if cp = true then k + m else k) := by
  fun_cases batchRead c a maxB cp with
  | case1 => exact ⟨0, rfl, rfl, h.k_le, rfl, by cases cp <;> rfl, by cases cp <;> exact h⟩
  | case2 plan _ ps =>
    have hinv := parsePlan_spec c hm a k maxB plan k {} (statefulPlan_good c hm n a k h maxB) (psinv_init c a k h.k_le)
      rfl rfl
    exact ⟨ps.parsed, hinv.entries, List.length_reverse.trans hinv.len, hinv.inLog, finishBatch_spec c n a k h ps hinv cp⟩

end WalrusVerif.AEng
