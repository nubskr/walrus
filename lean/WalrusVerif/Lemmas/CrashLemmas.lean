import WalrusVerif.Lemmas.EngFrame
/-! What `crashAt` leaves of an operation that writes no entry (for C07, C09). -/
namespace WalrusVerif.Eng
open WalrusVerif

theorem files_dieWith (p : Proc) (idx : AMap Topic Pos) : (dieWith p idx).files = p.files := by
  unfold dieWith; split <;> rfl

/-- a process death inside an operation other than an append, at any of its I/O events: the files are those the
operation itself leaves when run on the state `crashAt` runs it on (the log of index persists cleared) -/
theorem files_crashAt (c : Cfg) (p : Proc) (kind n : Nat) (fd : Bool) {op : Op} (h1 : ∀ t x, op ≠ .append t x)
    (h2 : ∀ t x, op ≠ .batch t x) :
    (step c p (.crashAt kind n fd op)).1.files =
      (step c (match p.inst with | some i => { p with inst := some { i with idxLog := [] } } | none => p) op).1.files := by
  rw [step.eq_def]
  -- uses `h1`, `h2`: they discharge the side conditions of the catch-all arm of `diskW`'s `match op`, leaving `none`
  simp -zeta only
  extract_lets kind' p0 normal diskW log
  split
  · rfl
  · simp only [diskW]
    split
    · exact files_dieWith ..
    · rfl

theorem files_crashAt_read (c : Cfg) (p : Proc) (kind n : Nat) (fd : Bool) (t : Topic) (cp : Bool) (m : Nat)
    (st : Option Nat) :
    (step c p (.crashAt kind n fd (.next t cp))).1.files = p.files ∧
    (step c p (.crashAt kind n fd (.bread t m cp st))).1.files = p.files := by
  have hread (q : Proc) : (step c q (.next t cp)).1.files = q.files ∧ (step c q (.bread t m cp st)).1.files = q.files :=
    ⟨withInst_files q _ fun i => (readNext_effect c q i t cp).files,
      withInst_files q _ fun i => (batchRead_effect c q i t m cp st).files⟩
  rw [files_crashAt c p kind n fd (op := .next t cp) nofun nofun,
    files_crashAt c p kind n fd (op := .bread t m cp st) nofun nofun, (hread _).1, (hread _).2]
  split <;> exact ⟨rfl, rfl⟩

end WalrusVerif.Eng
