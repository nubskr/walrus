import WalrusVerif.Lemmas.PlaneLemmas
import WalrusVerif.Lemmas.MetaLemmas
/-! The invariants of the data-plane model behind C23 (`LeaseInv`; `FlightInv` on a `QuietSchedule`) and C22 (`QInv`,
`AckInv`).  Each is kept by a task step through one of the relations of PlaneLemmas.  `LeaseInv` and `QInv` (and `MdInv`
of PlaneLog) are kept by every scheduler action (`runActs_invariant`) and hold after set-up (`setup_invariant`);
`AckInv` needs a schedule that spawns fresh tasks (`runActs_induction`), `FlightInv` a quiet one (`writesCurrent_quiet`),
and both start from a world without tasks (`setup_blank`, `tasks_empty`).  At the end: `drain` is a schedule that
spawns fresh. -/
namespace WalrusVerif.Plane
open WalrusVerif

theorem apply_cases (w : World) (n : Nat) :
    act w (.apply n) = w ∨ ∃ c, w.log[(w.node n).applied]? = some c ∧ act w (.apply n) =
      w.setNode n { w.node n with md := (Meta.applyCmd (w.node n).md c).1, applied := (w.node n).applied + 1 } := by
  unfold act applyNext; simp only; split
  · exact .inl rfl
  · next c hc => exact .inr ⟨c, hc, rfl⟩

/-- for invariants that read no node; the others use `apply_cases` -/
theorem apply_frame (w : World) (n : Nat) : ∃ ns, act w (.apply n) = { w with nodes := ns } := by
  rcases apply_cases w n with h | ⟨c, _, h⟩ <;> exact ⟨_, h⟩

theorem sync_core (w : World) (n m : Nat) : CoreStep (w.node m) ((act w (.sync n)).node m) m :=
  nodes_setNode (P := fun s m => CoreStep (w.node m) s m) (fun _ => .inl rfl) (.inr rfl) m

theorem runActs_append (w : World) (a b : List Act) : runActs w (a ++ b) = runActs (runActs w a) b := by
  simp [runActs, List.foldl_append]

theorem runActs_induction {P : World → Prop} {ok : Act → Prop} (hact : ∀ w a, ok a → P w → P (act w a))
    (as : List Act) (w : World) (hok : ∀ a ∈ as, ok a) (h : P w) : P (runActs w as) :=
  List.foldlRecOn as act h fun w hw a ha => hact w a (hok a ha) hw

theorem runActs_invariant {P : World → Prop} (hact : ∀ w a, P w → P (act w a)) (as : List Act) (w : World) (h : P w) :
    P (runActs w as) :=
  runActs_induction (ok := fun _ => True) (fun w a _ => hact w a) as w (fun _ _ => trivial) h

theorem applyAllOn_acts (w : World) (n fuel : Nat) : ∃ ns : List Nat, applyAllOn w n fuel = runActs w (ns.map .apply) := by
  fun_induction applyAllOn w n fuel with
  | case1 w => exact ⟨[], rfl⟩
  | case2 w fuel w' _ h ih => obtain ⟨ns, ih⟩ := ih; exact ⟨n :: ns, by rw [ih]; show _ = runActs (applyNext w n).1 _; rw [h]⟩
  | case3 w fuel w' h => exact ⟨[n], by show _ = (applyNext w n).1; rw [h]⟩

theorem applyAll_acts (w : World) : ∃ ns : List Nat, applyAll w = runActs w (ns.map .apply) := by
  unfold applyAll
  generalize w.nodeIds = ids
  induction ids generalizing w with
  | nil => exact ⟨[], rfl⟩
  | cons n r ih =>
    obtain ⟨a1, h1⟩ := applyAllOn_acts w n (w.log.length + 1)
    obtain ⟨a2, h2⟩ := ih (applyAllOn w n (w.log.length + 1))
    exact ⟨a1 ++ a2, by rw [List.foldl_cons, h2, h1, List.map_append, runActs_append]⟩

theorem applyAll_invariant {P : World → Prop} (happ : ∀ w n, P w → P (act w (.apply n))) (w : World) (h : P w) :
    P (applyAll w) := by
  obtain ⟨ns, e⟩ := applyAll_acts w
  rw [e, runActs, List.foldl_map]
  exact List.foldlRecOn ns _ h fun w h n _ => happ w n h

/-- set-up of a cluster: `n` nodes, a rollover threshold, topics with their first leaders -/
def setup (n thresh : Nat) (topics : List (Name × Nat)) : World :=
  topics.foldl (fun w t => createTopic w t.1 t.2) (initWorld n thresh)

theorem node_of_blank (ids : List Nat) (m : Nat) (mp : AMap Nat NodeSt) (h : (mp.get? m).getD {} = ({} : NodeSt)) :
    ((ids.foldl (fun (mp : AMap Nat NodeSt) i => mp.insert i {}) mp).get? m).getD {} = ({} : NodeSt) :=
  List.foldlRecOn (motive := fun mp : AMap Nat NodeSt => (mp.get? m).getD {} = ({} : NodeSt)) ids _ h fun mp h a _ => by
    rw [AMap.get?_insert]; split
    · rfl
    · exact h

/-- Induction over set-up.  `h0` is about the world `initWorld` builds first: blank nodes, no tasks, no history, but a
log and node ids, of which `P` must ask nothing.  From there set-up only applies log entries and appends commands. -/
theorem setup_invariant {P : World → Prop} (happ : ∀ w n, P w → P (act w (.apply n)))
    (hlog : ∀ w c name, P w → P { w with log := w.log ++ [c], topicOrder := w.topicOrder ++ [name] })
    (h0 : ∀ w : World, (∀ m, w.node m = {}) → w.tasks = AMap.empty → w.writes = [] → w.delivered = [] → w.acked = [] → P w)
    (n thresh : Nat) (topics : List (Name × Nat)) : P (setup n thresh topics) := by
  have h : P (initWorld n thresh) := applyAll_invariant happ _ (h0 _ (fun m => node_of_blank _ m _ rfl) rfl rfl rfl rfl)
  exact List.foldlRecOn topics _ h fun w h t _ => applyAll_invariant happ _ (hlog w _ _ h)

theorem setup_blank (n thresh : Nat) (topics : List (Name × Nat)) :
    (setup n thresh topics).tasks = AMap.empty ∧ (setup n thresh topics).writes = [] ∧ (setup n thresh topics).acked = [] := by
  refine setup_invariant (P := fun w => w.tasks = AMap.empty ∧ w.writes = [] ∧ w.acked = []) ?_ (fun _ _ _ h => h)
    (fun _ _ ht hw _ ha => ⟨ht, hw, ha⟩) n thresh topics
  intro w n h
  obtain ⟨ns, e⟩ := apply_frame w n
  rw [e]; exact h

theorem tasks_insert {P : Task → Prop} {ts : AMap Nat Task} {tid : Nat} {t' : Task}
    (h : ∀ i t, ts.get? i = some t → P t) (h' : P t') : ∀ i t, (ts.insert tid t').get? i = some t → P t := by
  intro i t hget
  rw [AMap.get?_insert] at hget
  split at hget
  · cases hget; exact h'
  · exact h i t hget

theorem tasks_empty {P : Nat → Task → Prop} {w : World} (h : w.tasks = AMap.empty) :
    ∀ i t, w.tasks.get? i = some t → P i t := by
  intro i t hg
  rw [h] at hg
  cases hg

def NodupKeys (m : Meta.ClusterState) : Prop := (AMap.keys m.topics).Nodup

/-- `ownedKeys` filters all entries of the topic table, `ownsOpen` looks the topic up and sees the first: with one entry
per topic they agree -/
theorem ownsOpen_of_mem_ownedKeys (m : Meta.ClusterState) (n : Nat) (k : Key) (hn : NodupKeys m) (h : k ∈ ownedKeys m n) :
    ownsOpen m n k = true := by
  unfold ownedKeys at h
  rw [List.mem_map] at h
  obtain ⟨⟨name, ts⟩, hf, hk⟩ := h
  obtain ⟨hmem, hl⟩ := List.mem_filter.mp hf
  subst hk
  unfold ownsOpen
  simp only
  rw [AMap.get?_of_mem_nodup hmem hn]
  simpa using hl

/-- per node: the metadata has one entry per topic; and a lease set that was refreshed at the current applied index is
exactly what that metadata prescribes -/
def NodeOk (s : NodeSt) (n : Nat) : Prop :=
  NodupKeys s.md ∧ s.leaseApplied ≤ s.applied ∧ (s.leaseApplied = s.applied → s.leases = ownedKeys s.md n)

theorem nodeOk_coreStep (s s' : NodeSt) (n : Nat) (hs : NodeOk s n) (h : CoreStep s s' n) : NodeOk s' n := by
  obtain ⟨h1, h2, h3⟩ := h.fields
  unfold NodeOk
  rw [h1, h2]
  rcases h3 with ⟨h3, h4⟩ | ⟨h3, h4⟩ <;> rw [h3, h4]
  · exact hs
  · exact ⟨hs.1, Nat.le_refl _, fun _ => rfl⟩

def LeaseInv (w : World) : Prop := ∀ n, NodeOk (w.node n) n

theorem leaseInv_act (w : World) (a : Act) (h : LeaseInv w) : LeaseInv (act w a) := by
  cases a with
  | step tid => exact fun n => nodeOk_coreStep _ _ n (h n) (stepTask_core w tid n)
  | apply n =>
    rcases apply_cases w n with e | ⟨c, _, e⟩ <;> rw [e]
    · exact h
    · obtain ⟨h1, h2, _⟩ := h n
      -- `leaseApplied ≤ applied < applied + 1`: the third clause of `NodeOk` holds for want of a premise, so `LeaseInv`
      -- says nothing of a lease set an apply has outdated (why C23 is partial)
      exact nodes_setNode h ⟨Meta.nodup_keys_applyCmd _ _ h1, Nat.le_succ_of_le h2, fun he => by simp only at he; omega⟩
  | sync n => exact fun m => nodeOk_coreStep _ _ m (h m) (sync_core w n m)
  | spawn tid t => exact h

theorem leaseInv_runActs (w : World) (as : List Act) (h : LeaseInv w) : LeaseInv (runActs w as) :=
  runActs_invariant leaseInv_act as w h

theorem leaseInv_setup (n thresh : Nat) (topics : List (Name × Nat)) : LeaseInv (setup n thresh topics) := by
  refine setup_invariant (fun w n => leaseInv_act w (.apply n)) (fun _ _ _ h => h) (fun w h _ _ _ _ m => ?_) n thresh topics
  rw [h m]
  exact ⟨List.nodup_nil, Nat.le_refl _, fun _ => rfl⟩

theorem writes_act {P : WriteEv → Prop} {w : World} (a : Act) (h : ∀ ev ∈ w.writes, P ev)
    (hnew : ∀ tid c, w.tasks.get? tid = some (.putLocked c) → P (writeEvOf w c)) :
    ∀ ev ∈ (act w a).writes, P ev := by
  cases a with
  | step tid =>
    show ∀ ev ∈ (stepTask w tid).1.writes, P ev
    rcases stepTask_writes w tid with hw | ⟨c, hc, hw⟩ <;> rw [hw]
    · exact h
    · exact List.forall_mem_append.mpr ⟨h, List.forall_mem_singleton.mpr (hnew tid c hc)⟩
  | apply n => obtain ⟨ns, e⟩ := apply_frame w n; rw [e]; exact h
  | sync n => exact h
  | spawn tid t => exact h

/-- the ghost flag of a write is the flight condition of the task at `locked` -/
theorem leasesCurrent_writeEvOf (w : World) (c : PutCtx) :
    (writeEvOf w c).leasesCurrent = true ↔ freshNode (w.node c.e) ∧ c.key ∈ (w.node c.e).leases := by
  simp [writeEvOf, freshNode]

theorem ownedAtWrite_of_leasesCurrent (w : World) (c : PutCtx) (h : LeaseInv w) :
    (writeEvOf w c).leasesCurrent = true → (writeEvOf w c).ownedAtWrite = true := by
  intro hc
  obtain ⟨hf, hm⟩ := (leasesCurrent_writeEvOf w c).mp hc
  obtain ⟨h1, _, h3⟩ := h c.e
  exact ownsOpen_of_mem_ownedKeys _ _ _ h1 (h3 hf ▸ hm)

/-- carried along the schedule together with `LeaseInv`, which gives it of each new write
(`ownedAtWrite_of_leasesCurrent`) -/
theorem writesOk_runActs (w : World) (as : List Act) (hi : LeaseInv w)
    (h : ∀ ev ∈ w.writes, ev.leasesCurrent = true → ev.ownedAtWrite = true) :
    ∀ ev ∈ (runActs w as).writes, ev.leasesCurrent = true → ev.ownedAtWrite = true :=
  (runActs_invariant (P := fun w => LeaseInv w ∧ ∀ ev ∈ w.writes, ev.leasesCurrent = true → ev.ownedAtWrite = true)
    (fun w a h => ⟨leaseInv_act w a h.1, writes_act a h.2 fun _ c _ => ownedAtWrite_of_leasesCurrent w c h.1⟩) as w ⟨hi, h⟩).2

/-- refreshing a lease set that is current gives the same set (`NodeOk`) -/
theorem fresh_coreStep (s s' : NodeSt) (n : Nat) (hs : NodeOk s n) (hf : freshNode s) (h : CoreStep s s' n) :
    freshNode s' ∧ s'.leases = s.leases := by
  obtain ⟨_, h2, h3⟩ := h.fields
  unfold freshNode at *
  rcases h3 with ⟨h3, h4⟩ | ⟨h3, h4⟩ <;> rw [h3, h4, h2]
  · exact ⟨hf, rfl⟩
  · exact ⟨rfl, (hs.2.2 hf).symm⟩

theorem flightOk_coreStep {w w' : World} (hL : LeaseInv w) (hc : ∀ e, CoreStep (w.node e) (w'.node e) e) {t : Task}
    (h : FlightOk w t) : FlightOk w' t := by
  intro e k chk hfl
  obtain ⟨h1, h2⟩ := h e k chk hfl
  obtain ⟨h3, h4⟩ := fresh_coreStep _ _ e (hL e) h1 (hc e)
  exact ⟨h3, fun hk => by rw [h4]; exact h2 hk⟩

theorem flightInv_step (w : World) (tid : Nat) (hL : LeaseInv w) (hF : FlightInv w) : FlightInv (stepTask w tid).1 := by
  have others : ∀ i t, w.tasks.get? i = some t → FlightOk (stepTask w tid).1 t :=
    fun i t hg => flightOk_coreStep hL (stepTask_core w tid) (hF i t hg)
  unfold FlightInv
  cases stepTask_fstep w tid hF with
  | unchanged h => rw [h]; exact others
  | landed t' h hn => rw [h]; exact tasks_insert others (flightOk_none hn)
  | flying t' h e k chk hf hfresh hmem => rw [h]; exact tasks_insert others (FlightOk.intro hf hfresh hmem)

/-- no append is in flight on node `n` -/
def quietOn (w : World) (n : Nat) : Prop :=
  ∀ tid t, w.tasks.get? tid = some t → ∀ e k chk, flightOn t = some (e, k, chk) → e ≠ n

/-- the schedule applies a log entry on a node only while no append is in flight there, and spawns no task that is in
flight or holds a written payload (the initial states `putStart`, `getStart`, `monStart` are neither).  No proof reads
`holds t = none`: `flightInv_act` uses the first half of the spawn clause only. -/
def QuietSchedule : World → List Act → Prop
  | _, [] => True
  | w, a :: r =>
    (match a with
     | .apply n => quietOn w n
     | .spawn _ t => flightOn t = none ∧ holds t = none
     | _ => True) ∧ QuietSchedule (act w a) r

theorem flightInv_act (w : World) (a : Act) {r : List Act} (hq : QuietSchedule w (a :: r)) (hL : LeaseInv w)
    (hF : FlightInv w) : FlightInv (act w a) := by
  cases a with
  | step tid => exact flightInv_step w tid hL hF
  | apply n =>
    rcases apply_cases w n with e | ⟨c, _, e⟩ <;> rw [e]
    · exact hF
    · intro tid t hget e k chk hfl
      rw [node_setNode, if_neg (Ne.symm (hq.1 tid t hget e k chk hfl))]
      exact hF tid t hget e k chk hfl
  | sync n => exact fun tid t hget => flightOk_coreStep hL (sync_core w n) (hF tid t hget)
  | spawn tid' t' => exact tasks_insert hF (flightOk_none hq.1.1)

/-- on a quiet schedule every write is made under a current lease set: `FlightInv` says so of the task at `locked`.
By induction on the schedule, because `QuietSchedule` speaks of the world each action starts from. -/
theorem writesCurrent_quiet (w : World) (as : List Act) (hq : QuietSchedule w as) (hL : LeaseInv w) (hF : FlightInv w)
    (h : ∀ ev ∈ w.writes, ev.leasesCurrent = true) : ∀ ev ∈ (runActs w as).writes, ev.leasesCurrent = true := by
  induction as generalizing w with
  | nil => exact h
  | cons a r ih =>
    exact ih _ hq.2 (leaseInv_act w a hL) (flightInv_act w a hq hL hF) <| writes_act a h fun tid c hc =>
      (leasesCurrent_writeEvOf w c).mpr ((hF tid _ hc c.e c.key true rfl).imp_right (· rfl))

/-- executable forms of `quietOn` and `QuietSchedule`, for concrete schedules -/
def quietOnB (w : World) (n : Nat) : Bool :=
  List.all w.tasks fun p => match flightOn p.2 with | some (e, _, _) => e != n | none => true

theorem quietOnB_sound (w : World) (n : Nat) (h : quietOnB w n = true) : quietOn w n := by
  intro tid t hget e k chk hfl
  simpa [hfl] using List.all_eq_true.mp h (tid, t) (AMap.mem_of_get? hget)

def quietScheduleB : World → List Act → Bool
  | _, [] => true
  | w, a :: r =>
    (match a with
     | .apply n => quietOnB w n
     | .spawn _ t => (flightOn t).isNone && (holds t).isNone
     | _ => true) && quietScheduleB (act w a) r

theorem quietScheduleB_sound (w : World) (as : List Act) (h : quietScheduleB w as = true) : QuietSchedule w as := by
  induction as generalizing w with
  | nil => trivial
  | cons a r ih =>
    unfold quietScheduleB at h
    rw [Bool.and_eq_true] at h
    refine ⟨?_, ih _ h.2⟩
    cases a with
    | apply n => exact quietOnB_sound w n h.1
    | spawn tid t => simpa using h.1
    | _ => trivial

/-- payloads delivered from the queue of (node `e`, wal key `k`), in delivery order -/
def dFrom (w : World) (e : Nat) (k : Key) : List Payload :=
  (w.delivered.filter (fun d => d.1 == e && d.2.1 == k)).map (·.2.2)
/-- payloads written to that queue, in write order -/
def wTo (w : World) (e : Nat) (k : Key) : List Payload :=
  (w.writes.filter (fun ev => ev.node == e && ev.key == k)).map (·.payload)

/-- per queue: it holds exactly what was written to it, in order; what was delivered from it is exactly its consumed
prefix, in order -/
def QInv (w : World) : Prop :=
  ∀ e k, (qOf w e k).entries = wTo w e k ∧ dFrom w e k = (qOf w e k).entries.take (qOf w e k).consumed ∧
    (qOf w e k).consumed ≤ (qOf w e k).entries.length

theorem filter_map_snoc {α β : Type} (p : α → Bool) (f : α → β) (l : List α) (a : α) :
    ((l ++ [a]).filter p).map f = (l.filter p).map f ++ if p a = true then [f a] else [] := by
  rw [List.filter_append, List.map_append]
  cases h : p a <;> simp [h]

theorem qOf_insert {w w' : World} {l : Nat} {k0 : Key} {q' : Queue}
    (hq : ∀ e, (w'.node e).queues = if l = e then (w.node e).queues.insert k0 q' else (w.node e).queues) (e : Nat) (k : Key) :
    qOf w' e k = if l = e ∧ k0 = k then q' else qOf w e k := by
  unfold qOf
  rw [hq e]
  by_cases h1 : l = e
  · rw [if_pos h1, AMap.get?_insert]
    by_cases h2 : k0 = k <;> simp [h1, h2]
  · simp [h1]

theorem qinv_qstep (w w' : World) (h : QInv w) (hs : QStep w w') : QInv w' := by
  intro e k
  obtain ⟨h1, h2, h3⟩ := h e k
  cases hs with
  | same hq hw hd =>
    have : qOf w' e k = qOf w e k := by unfold qOf; rw [hq e]
    unfold dFrom wTo
    rw [this, hw, hd]
    exact ⟨h1, h2, h3⟩
  | write c hw hd hq =>
    have hw' : wTo w' e k = wTo w e k ++ if c.e = e ∧ c.key = k then [c.payload] else [] := by
      unfold wTo; rw [hw, filter_map_snoc]; simp only [writeEvOf, Bool.and_eq_true, beq_iff_eq]
    have hd' : dFrom w' e k = dFrom w e k := by unfold dFrom; rw [hd]
    rw [qOf_insert hq, hw', hd']
    split
    · next h4 =>
      obtain ⟨rfl, rfl⟩ := h4
      refine ⟨by rw [h1], ?_, by simp only [List.length_append, List.length_singleton]; omega⟩
      rw [List.take_append_of_le_length h3]; exact h2
    · rw [List.append_nil]; exact ⟨h1, h2, h3⟩
  | deliver l k0 x hx hw hd hq =>
    have hw' : wTo w' e k = wTo w e k := by unfold wTo; rw [hw]
    have hd' : dFrom w' e k = dFrom w e k ++ if l = e ∧ k0 = k then [x] else [] := by
      unfold dFrom; rw [hd, filter_map_snoc]; simp only [Bool.and_eq_true, beq_iff_eq]
    rw [qOf_insert hq, hw', hd']
    split
    · next h4 =>
      obtain ⟨rfl, rfl⟩ := h4
      refine ⟨h1, ?_, (List.getElem?_eq_some_iff.mp hx).1⟩
      show _ = List.take ((qOf w l k0).consumed + 1) _
      rw [List.take_add_one, hx, h2]; rfl
    · rw [List.append_nil]; exact ⟨h1, h2, h3⟩

theorem act_qstep (w : World) (a : Act) : QStep w (act w a) := by
  cases a with
  | step tid => exact stepTask_qstep w tid
  | apply n =>
    rcases apply_cases w n with e | ⟨c, _, e⟩ <;> rw [e]
    · exact .same (fun _ => rfl) rfl rfl
    · exact .same (setNode_same (·.queues) rfl) rfl rfl
  | sync n => exact .same (setNode_same (·.queues) rfl) rfl rfl
  | spawn tid t => exact .same (fun _ => rfl) rfl rfl

theorem qinv_act (w : World) (a : Act) (h : QInv w) : QInv (act w a) := qinv_qstep _ _ h (act_qstep w a)

theorem qinv_setup (n thresh : Nat) (topics : List (Name × Nat)) : QInv (setup n thresh topics) := by
  refine setup_invariant (fun w n => qinv_act w (.apply n)) (fun _ _ _ h => h) (fun w h _ hw hd _ e k => ?_) n thresh topics
  unfold dFrom wTo qOf
  rw [h e, hw, hd]
  exact ⟨rfl, rfl, Nat.le_refl _⟩

/-- every payload a task has written, and every acknowledged payload, is in `writes` -/
def AckInv (w : World) : Prop :=
  (∀ tid t, w.tasks.get? tid = some t → ∀ x, holds t = some x → Stored w x) ∧ (∀ x ∈ w.acked, Stored w x)

theorem ackInv_step (w : World) (tid : Nat) (h : AckInv w) : AckInv (stepTask w tid).1 := by
  obtain ⟨mono, ht, ha⟩ := stepTask_tstep w tid (fun t ht => h.1 tid t ht)
  have old : ∀ i t, w.tasks.get? i = some t → ∀ x, holds t = some x → Stored (stepTask w tid).1 x :=
    fun i t hg x hx => mono x (h.1 i t hg x hx)
  constructor
  · rcases ht with ht | ⟨t', ht, hs⟩ <;> rw [ht]
    · exact old
    · exact tasks_insert old hs
  · intro x hx
    rcases ha with ha | ⟨y, ha, t, hget, hy⟩
    · rw [ha] at hx; exact mono x (h.2 x hx)
    · rw [ha, List.mem_append, List.mem_singleton] at hx
      rcases hx with hx | rfl
      · exact mono x (h.2 x hx)
      · exact mono x (h.1 tid t hget x hy)

theorem ackInv_act (w : World) (a : Act) (hs : ∀ tid t, a = .spawn tid t → holds t = none) (h : AckInv w) : AckInv (act w a) := by
  cases a with
  | step tid => exact ackInv_step w tid h
  | apply n => obtain ⟨ns, e⟩ := apply_frame w n; rw [e]; exact h
  | sync n => exact h
  | spawn tid t =>
    exact ⟨tasks_insert (P := fun t => ∀ x, holds t = some x → Stored w x) h.1 (by rw [hs tid t rfl]; nofun), h.2⟩

/-- the schedule spawns no task that holds a written payload.  The initial states `putStart`, `getStart`, `monStart`,
which are what the harness and `wdriver` spawn, hold none. -/
def SpawnsFresh (acts : List Act) : Prop := ∀ a ∈ acts, ∀ tid t, a = .spawn tid t → holds t = none

def spawnsFreshB (acts : List Act) : Bool := acts.all fun | .spawn _ t => (holds t).isNone | _ => true

theorem spawnsFreshB_sound (acts : List Act) (h : spawnsFreshB acts = true) : SpawnsFresh acts := by
  intro a ha tid t he
  subst he
  simpa using List.all_eq_true.mp h _ ha

theorem spawnsFresh_map {α : Type} {f : α → Act} (hf : ∀ x tid t, f x ≠ .spawn tid t) (l : List α) :
    SpawnsFresh (l.map f) := by
  intro a ha tid t he
  obtain ⟨x, _, rfl⟩ := List.mem_map.mp ha
  exact absurd he (hf x tid t)

def Reaches (w w' : World) : Prop := ∃ acts, w' = runActs w acts ∧ SpawnsFresh acts

theorem Reaches.trans {a b c : World} : Reaches a b → Reaches b c → Reaches a c
  | ⟨x, hx, sx⟩, ⟨y, hy, sy⟩ => ⟨x ++ y, by rw [runActs_append, ← hx, hy], List.forall_mem_append.mpr ⟨sx, sy⟩⟩

theorem reaches_applyAll (w : World) : Reaches w (applyAll w) :=
  let ⟨ns, h⟩ := applyAll_acts w
  ⟨_, h, spawnsFresh_map (fun _ _ _ => Act.noConfusion) ns⟩

/-- a fold that threads a state and collects outputs beside it ends in the state of the fold without the outputs.
(About any `f`: with `stepTask` in its place every unification step would unfold `stepTask`.) -/
theorem foldl_fst {σ α β τ : Type} (f : σ → α → σ × β) (g : τ → α → β → τ) (l : List α) (s : σ) (b : τ) :
    (l.foldl (fun (acc : σ × τ) x =>
        let (s', o) := f acc.1 x
        (s', g acc.2 x o)) (s, b)).1 = l.foldl (fun s x => (f s x).1) s :=
  (List.foldl_hom Prod.fst fun _ _ => rfl).symm

/-- one round of steps in `drainRounds` -/
theorem reaches_steps {tids : List Nat} {w w' : World} {outs : List (Nat × StepOut)}
    (h : tids.foldl (fun (acc : World × List (Nat × StepOut)) tid =>
        let (w1, o) := stepTask acc.1 tid
        (w1, acc.2 ++ [(tid, o)])) (w, []) = (w', outs)) : Reaches w w' := by
  obtain rfl : _ = w' := congrArg Prod.fst h
  refine ⟨tids.map .step, ?_, spawnsFresh_map (fun _ _ _ => Act.noConfusion) tids⟩
  rw [foldl_fst stepTask fun b tid o => b ++ [(tid, o)], runActs, List.foldl_map]; rfl

theorem reaches_drainRounds (fuel : Nat) (w : World) : Reaches w (drainRounds w fuel).1 := by
  fun_induction drainRounds w fuel with
  -- out of fuel; no foreground task left
  | case1 w => exact reaches_applyAll w
  | case2 w => exact (reaches_applyAll w).trans (reaches_applyAll _)
  -- a round of steps: every task blocked, or on to the next round (`hrec`: what the recursive call returns)
  | case3 w => exact ((reaches_applyAll w).trans (reaches_steps ‹_›)).trans (reaches_applyAll _)
  | case4 w =>
    rename_i hrec ih
    rw [hrec] at ih
    exact ((reaches_applyAll w).trans (reaches_steps ‹_›)).trans ih

end WalrusVerif.Plane
