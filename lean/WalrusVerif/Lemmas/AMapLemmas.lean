import WalrusVerif.Model.AMap
/-! Association maps: what `get?` finds after `erase` and `insert`, how `get?` relates to membership, that `insert`
keeps the keys distinct, and that with distinct keys lookups do not depend on the order of the entries
(`get?_of_mem_nodup`, `get?_perm`). -/
namespace WalrusVerif
namespace AMap
variable {κ ν : Type} [DecidableEq κ]

@[simp] theorem get?_empty (k : κ) : (AMap.empty : AMap κ ν).get? k = none := rfl

theorem get?_erase_self (m : AMap κ ν) (k : κ) : (m.erase k).get? k = none := by
  fun_induction erase m k <;> simp [get?, *]

theorem get?_erase_ne (m : AMap κ ν) (k j : κ) (h : k ≠ j) : (m.erase k).get? j = m.get? j := by
  fun_induction erase m k <;> simp [get?, *]

theorem get?_insert (m : AMap κ ν) (k j : κ) (v : ν) :
    (m.insert k v).get? j = if k = j then some v else m.get? j := by
  simp only [insert, get?]; split
  · rfl
  · exact get?_erase_ne m k j ‹_›

@[simp] theorem get?_insert_self (m : AMap κ ν) (k : κ) (v : ν) : (m.insert k v).get? k = some v := by
  rw [get?_insert, if_pos rfl]

theorem get?_insert_ne (m : AMap κ ν) (k j : κ) (v : ν) (h : k ≠ j) :
    (m.insert k v).get? j = m.get? j := by
  rw [get?_insert, if_neg h]

theorem get?_insert_insert (m : AMap κ ν) (k j : κ) (v v' : ν) :
    ((m.insert k v).insert k v').get? j = if k = j then some v' else m.get? j := by
  rw [get?_insert]
  split
  · rfl
  · rw [get?_insert_ne _ _ _ _ ‹_›]

theorem mem_of_get? {m : AMap κ ν} {k : κ} {v : ν} (h : m.get? k = some v) : (k, v) ∈ m := by
  fun_induction get? m k with
  | case1 => cases h
  | case2 => cases h; exact List.mem_cons_self
  | case3 => rename_i ih; exact List.mem_cons_of_mem _ (ih h)

/-- with distinct keys, `get?` finds every entry: an entry behind another with the same key would be a duplicate -/
theorem get?_of_mem_nodup {m : AMap κ ν} {k : κ} {v : ν} (hm : (k, v) ∈ m) (h : m.keys.Nodup) : m.get? k = some v := by
  fun_induction get? m k with
  | case1 => cases hm
  | case2 =>
    rcases List.mem_cons.mp hm with e | hm
    · cases e; rfl
    · exact absurd (List.mem_map_of_mem hm) (List.nodup_cons.mp h).1
  | case3 =>
    rename_i hk ih
    rcases List.mem_cons.mp hm with e | hm
    · cases e; exact absurd rfl hk
    · exact ih hm (List.nodup_cons.mp h).2

theorem keys_erase (m : AMap κ ν) (k : κ) : (m.erase k).keys = m.keys.filter (· ≠ k) := by
  fun_induction erase m k <;> simp_all [keys]

theorem nodup_keys_insert (m : AMap κ ν) (k : κ) (v : ν) (h : m.keys.Nodup) : (m.insert k v).keys.Nodup := by
  show (k :: (m.erase k).keys).Nodup
  rw [keys_erase, List.nodup_cons, List.mem_filter]
  exact ⟨fun h => by simpa using h.2, h.filter _⟩

theorem get?_perm {l₁ l₂ : AMap κ ν} (hp : List.Perm l₁ l₂) (hd : l₁.keys.Nodup) (k : κ) : l₁.get? k = l₂.get? k :=
  have hd₂ : l₂.keys.Nodup := (hp.map Prod.fst).nodup_iff.mp hd
  Option.ext fun _ => ⟨fun h => get?_of_mem_nodup (hp.mem_iff.mp (mem_of_get? h)) hd₂,
    fun h => get?_of_mem_nodup (hp.mem_iff.mpr (mem_of_get? h)) hd⟩

theorem isSome_get?_insert (m : AMap κ ν) (k j : κ) (v : ν) :
    ((m.insert k v).get? j).isSome ↔ k = j ∨ (m.get? j).isSome := by
  rw [get?_insert]; split <;> simp [*]

end AMap
end WalrusVerif
