import WalrusVerif.Model.WalKey
/-! What C25 needs of Model/WalKey: a rendered `u64` parses back (`parseU64_render`), and `rsplitOnce` finds the
separator the key was built with even if the topic contains it (`rsplit_last`). -/
namespace WalrusVerif.WalKey
open WalrusVerif

theorem decDigit_props : ∀ n, n < 10 → (decDigit n).isDigit = true ∧ (decDigit n).toNat - 48 = n := by
  decide

theorem render_digits (n : Nat) : ∀ c ∈ render n, c.isDigit = true := by
  fun_induction render n with
  | case1 n h => simpa using (decDigit_props n h).1
  | case2 n h ih =>
    exact List.forall_mem_append.mpr ⟨ih, List.forall_mem_singleton.mpr (decDigit_props _ (Nat.mod_lt _ (by decide))).1⟩

theorem render_ne_nil (n : Nat) : render n ≠ [] := by
  rw [render]; split <;> simp

theorem render_parse (n : Nat) : (render n).foldl digitStep (some 0) = some n := by
  fun_induction render n with
  | case1 n h => simp [digitStep, decDigit_props n h]
  | case2 n h ih =>
    rw [List.foldl_append, ih]
    simp [digitStep, decDigit_props (n % 10) (Nat.mod_lt _ (by decide))]
    omega

theorem parseU64_render (n : Nat) (h : n < 2 ^ 64) : parseU64 (render n) = some n := by
  have hplus : stripPlus (render n) = render n := by
    unfold stripPlus
    split
    · rename_i r heq
      exact absurd (render_digits n '+' (by rw [heq]; simp)) (by decide)
    · rfl
  unfold parseU64
  simp only [hplus, render_ne_nil, if_false, render_parse, h, if_true]

theorem rsplitOnce_cons (sp : List Char) (c : Char) (cs : List Char) :
    rsplitOnce sp (c :: cs) =
      match rsplitOnce sp cs with
      | some (b, a) => some (c :: b, a)
      | none => if sp.isPrefixOf (c :: cs) then some ([], (c :: cs).drop sp.length) else none := by
  rfl

theorem rsplitOnce_none (sp l : List Char) (h : ∀ t, t <:+ l → ¬ sp <+: t) : rsplitOnce sp l = none := by
  induction l with
  | nil => rfl
  | cons c cs ih =>
    rw [rsplitOnce_cons, ih fun t ht => h t (ht.trans (List.suffix_cons c cs)),
      if_neg (by simpa using h _ (List.suffix_refl _))]

/-- When `d` is free of `x`, the separator `s ++ [x]` occurs in `s ++ [x] ++ d` at the front only: an occurrence
further right would end, with `x`, inside `d`. -/
theorem sep_not_prefix_of_not_mem {s d t : List Char} {x : Char} (hx : x ∉ d)
    (ht : t <:+ s ++ [x] ++ d) (hl : t.length ≤ s.length + d.length) : ¬ s ++ [x] <+: t := by
  rintro ⟨r, rfl⟩
  have h : x :: r <:+ d :=
    List.suffix_of_suffix_length_le (l₃ := s ++ [x] ++ d) (.trans ⟨s, by simp⟩ ht)
      (List.suffix_append _ d) (by simp at hl ⊢; omega)
  exact hx (h.subset List.mem_cons_self)

/-- `rsplitOnce` splits at the last occurrence of the separator; behind `pre` that is the one written out, provided the
separator's last character does not occur in what follows it -/
theorem rsplit_last (s : List Char) (x : Char) (pre d : List Char) (hx : x ∉ d) :
    rsplitOnce (s ++ [x]) (pre ++ (s ++ [x]) ++ d) = some (pre, d) := by
  induction pre with
  | nil =>
    obtain ⟨c, cs, e⟩ : ∃ c cs, s ++ [x] ++ d = c :: cs := by cases s <;> simp
    have hl : cs.length = s.length + d.length := by
      have := congrArg List.length e; simp at this; omega
    have hn := rsplitOnce_none (s ++ [x]) cs fun t ht =>
      sep_not_prefix_of_not_mem hx (e ▸ ht.trans (List.suffix_cons c cs)) (hl ▸ ht.length_le)
    rw [List.nil_append, e, rsplitOnce_cons, hn, ← e]
    simp
  | cons c p ih => rw [List.cons_append, List.cons_append, rsplitOnce_cons, ih]

theorem stripPrefix_append (p s : List Char) : stripPrefix p (p ++ s) = some s := by
  simp [stripPrefix]

end WalrusVerif.WalKey
