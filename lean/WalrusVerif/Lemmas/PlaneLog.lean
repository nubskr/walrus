import WalrusVerif.Lemmas.PlaneInv
/-!
The metadata command log of the data-plane model is append-only, and every node's applied metadata is the fold of
a prefix of it (the bridge between C19's statement and the model C22/C23 are proved about).
-/
namespace WalrusVerif.Plane
open WalrusVerif

theorem stepTask_logStep (w : World) (tid : Nat) : LogStep w (stepTask w tid).1 := by
  cases stepTask_eff w tid with
  | move _ hl => exact hl
  | write | deliver => exact logStep_of_eq _ _ ‹_›
  | ack _ h => rw [h]; exact logStep_refl _

/-- `Meta.run ClusterState.init` (by `rfl`): `Meta.inv_run`, `Meta.sealed_stable_run` apply to a node's metadata -/
def foldCmds (cs : List Meta.Cmd) : Meta.ClusterState := cs.foldl (fun m c => (Meta.applyCmd m c).1) Meta.ClusterState.init

theorem foldCmds_snoc (cs : List Meta.Cmd) (c : Meta.Cmd) :
    foldCmds (cs ++ [c]) = (Meta.applyCmd (foldCmds cs) c).1 := by
  simp [foldCmds, List.foldl_append]

/-- every node has applied a prefix of the one command log, and holds exactly the metadata that prefix leads to -/
def MdInv (w : World) : Prop :=
  ∀ m, (w.node m).applied ≤ w.log.length ∧ (w.node m).md = foldCmds (w.log.take (w.node m).applied)

/-- `MdInv` depends on each node's `core` only and survives appending to the log -/
theorem mdInv_of_core (w w' : World) (h : MdInv w) (hl : LogStep w w') (hc : ∀ m, CoreStep (w.node m) (w'.node m) m) :
    MdInv w' := by
  intro m
  obtain ⟨ext, he⟩ := hl
  obtain ⟨h1, h2⟩ := h m
  obtain ⟨hmd, happ, _⟩ := (hc m).fields
  rw [hmd, happ, he, List.take_append_of_le_length h1]
  exact ⟨by rw [List.length_append]; omega, h2⟩

theorem mdInv_act (w : World) (a : Act) (h : MdInv w) : MdInv (act w a) := by
  cases a with
  | step tid => exact mdInv_of_core w _ h (stepTask_logStep w tid) (stepTask_core w tid)
  | apply n =>
    rcases apply_cases w n with e | ⟨c, hg, e⟩ <;> rw [e]
    · exact h
    · obtain ⟨_, h2⟩ := h n
      refine nodes_setNode (P := fun s _ => s.applied ≤ w.log.length ∧ s.md = foldCmds (w.log.take s.applied)) h
        ⟨(List.getElem?_eq_some_iff.mp hg).1, ?_⟩
      show _ = foldCmds (w.log.take ((w.node n).applied + 1))
      rw [List.take_add_one, hg, Option.toList, foldCmds_snoc, ← h2]
  | sync n => exact mdInv_of_core w _ h (logStep_refl w) (sync_core w n)
  | spawn tid t => exact h

theorem node_default (w : World) (m : Nat) (h : w.nodes.get? m = none) : w.node m = {} := by
  unfold World.node; rw [h]; rfl

theorem mdInv_setup (n thresh : Nat) (topics : List (Name × Nat)) : MdInv (setup n thresh topics) := by
  refine setup_invariant (fun w n => mdInv_act w (.apply n)) (fun w _ _ h => mdInv_of_core w _ h ⟨[_], rfl⟩ fun _ => .inl rfl)
    (fun w h _ _ _ _ m => ?_) n thresh topics
  rw [h m]
  exact ⟨Nat.zero_le _, rfl⟩

end WalrusVerif.Plane
