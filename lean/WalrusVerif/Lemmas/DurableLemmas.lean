import WalrusVerif.Model.Durable
/-! `occursIn` and `fileDurable` of Model/Durable.lean only grow with the power-loss point (for `writeDurable`:
`C10_durable_monotone`); soundness of its executable trace checkers. -/
namespace WalrusVerif.Durable

theorem occursIn_mono {tr : Trace} {lo hi hi' : Nat} {q : Ev → Bool} (h : occursIn tr lo hi q) (hh : hi ≤ hi') :
    occursIn tr lo hi' q := by
  obtain ⟨m, h1, h2, e, he, hq⟩ := h
  exact ⟨m, h1, Nat.lt_of_lt_of_le h2 hh, e, he, hq⟩

theorem fileDurable_mono {tr : Trace} {k k' f : Nat} (h : fileDurable tr k f) (hk : k ≤ k') : fileDurable tr k' f := by
  rcases h with h | ⟨c, hc, he, ho⟩
  · exact Or.inl h
  · exact Or.inr ⟨c, Nat.lt_of_lt_of_le hc hk, he, occursIn_mono ho hk⟩

theorem occursInB_sound {tr : Trace} {lo hi : Nat} {q : Ev → Bool} (h : occursInB tr lo hi q = true) : occursIn tr lo hi q := by
  simp only [occursInB, List.any_eq_true, Bool.and_eq_true, decide_eq_true_eq] at h
  obtain ⟨m, hm, hlo, hb⟩ := h
  split at hb
  · exact ⟨m, hlo, List.mem_range.mp hm, _, ‹_›, hb⟩
  · cases hb

theorem fileDurableB_sound {tr : Trace} {k f : Nat} (h : fileDurableB tr k f = true) : fileDurable tr k f := by
  simp only [fileDurableB, Bool.or_eq_true, Bool.not_eq_true', List.any_eq_false, List.any_eq_true, Bool.and_eq_true,
    beq_iff_eq] at h
  rcases h with h | ⟨c, hc, he, ho⟩
  · exact .inl fun c hc => by simpa using h _ (List.mem_of_getElem? hc)
  · exact .inr ⟨c, List.mem_range.mp hc, he, occursInB_sound ho⟩

theorem all_range_length {tr : Trace} {p : Nat → Bool} (h : (List.range tr.length).all p = true) {a : Nat} {e : Ev}
    (ha : tr[a]? = some e) : p a = true :=
  List.all_eq_true.mp h a (List.mem_range.mpr (List.getElem?_eq_some_iff.mp ha).1)

theorem ackDisciplinedB_sound (tr : Trace) (h : ackDisciplinedB tr = true) : AckDisciplined tr := by
  intro a id ha
  have := all_range_length h ha
  simp only [ha, ackOK, List.any_eq_true] at this
  obtain ⟨j, hj, hb⟩ := this
  split at hb
  · rename_i f id' s he
    simp only [Bool.and_eq_true, beq_iff_eq, Bool.or_eq_true] at hb
    obtain ⟨⟨rfl, hs⟩, hf⟩ := hb
    exact ⟨j, f, s, List.mem_range.mp hj, he, hs.imp_right occursInB_sound, fileDurableB_sound hf⟩
  · cases hb

theorem readDisciplinedB_sound (tr : Trace) (h : readDisciplinedB tr = true) : ReadDisciplined tr := by
  intro a v ha
  have := all_range_length h ha
  simp only [ha, readOK, List.any_eq_true, Bool.and_eq_true, beq_iff_eq] at this
  obtain ⟨j, hj, he, ho⟩ := this
  exact ⟨j, List.mem_range.mp hj, he, occursInB_sound ho⟩

end WalrusVerif.Durable
