import WalrusVerif.Lemmas.AEngParse
/-! The batch-read planner: what its loop adds to the plan continues it on entry boundaries (`planLoop_good`); the plan
of a cursor read is the loop's plan followed by a range in the tail block (`statefulPlan_eq`). -/
namespace WalrusVerif.AEng
open WalrusVerif WalrusVerif.Eng

theorem planAdd_plan (b : ABlk) (s : APlanSt) (stop : Nat) :
    (planAdd b s stop).plan = s.plan ++ (if stop > s.curOff then [planRange b s stop] else []) ∧
      (planAdd b s stop).curIdx = s.curIdx := by
  unfold planAdd; split <;> simp

theorem rangeOK_planRange {c : Cfg} {a : ATopic} {s : APlanSt} {b : ABlk} (hb : a.chain[s.curIdx]? = some b)
    (hcur : a.curIdx ≤ s.curIdx) {j : Nat} (hj : j ≤ b.es.length) (hoff : s.curOff = bytes c (b.es.take j)) {stop : Nat}
    (hstop : stop ≤ b.used c) : RangeOK c a (planRange b s stop) (before a.chain s.curIdx) j :=
  ⟨hj, hoff, hstop, fun j' e he => log_getElem_sealed a s.curIdx j' b hb e he, ⟨b, hb, rfl, rfl, hcur⟩⟩

/-- what the planner adds to the plan (`news`) continues it from the position it started at; if it
runs through the whole chain, a good plan for the tail may follow.  `Good` has no append lemma
(only the last range of a good plan may be cut short or be the tail), so the statement takes what
will follow, `suffix`, as a parameter: the induction conses onto `news ++ suffix` from the front. -/
theorem planLoop_good (c : Cfg) (hm : 0 < c.metaSz) (a : ATopic) (maxB fuel : Nat) (s : APlanSt) (g : Nat)
    (hcur : a.curIdx ≤ s.curIdx) (hp : PosDen c a.chain s.curIdx s.curOff g) :
    ∃ news, (planLoop c a.chain maxB false fuel s).plan = s.plan ++ news ∧
      ∀ suffix, ((planLoop c a.chain maxB false fuel s).curIdx < a.chain.length → suffix = []) →
        ((planLoop c a.chain maxB false fuel s).curIdx ≥ a.chain.length → Good c a (chainEs a.chain).length suffix) →
        Good c a g (news ++ suffix) := by
  -- where the planner returns its state as it is, `news = []`
  have hstay : ∀ (s : APlanSt) g, PosDen c a.chain s.curIdx s.curOff g →
      ∀ suffix, (s.curIdx < a.chain.length → suffix = []) →
        (s.curIdx ≥ a.chain.length → Good c a (chainEs a.chain).length suffix) → Good c a g suffix := by
    intro s g hp suffix h1 h2
    rcases Nat.lt_or_ge s.curIdx a.chain.length with hl | hl
    · rw [h1 hl]; exact Good.nil g
    · rw [hp.atEnd (Nat.le_antisymm hp.idx_le hl)]; exact h2 hl
  -- branches of `planLoop`: 1 out of fuel; 2 chain used up; 3 block exhausted, step on; 4 range cut short, stop;
  -- 5 block planned to its end, step on; 6 budget used
  fun_induction planLoop c a.chain maxB false fuel s generalizing g with
  | case1 s | case2 _ s | case6 _ s => exact ⟨[], (List.append_nil _).symm, hstay s g hp⟩
  | case3 _ s b hb _ hex ih => exact ih g (Nat.le_succ_of_le hcur) (hp.next hm hb hex)
  | case4 _ s b hb _ hex stop s1 hcut =>
    obtain ⟨j, hj, hoff, hgj⟩ := hp.inBlock b hb
    obtain ⟨hpl, hidx⟩ := planAdd_plan b s stop
    refine ⟨_, hpl, fun suffix h1 _ => ?_⟩
    rw [h1 (hidx ▸ getElem?_lt_length' _ _ _ hb), List.append_nil]
    split
    · exact Good.cons g _ [] _ j (rangeOK_planRange hb hcur hj hoff (Nat.min_le_left _ _)) hgj (fun h => absurd rfl h)
        (Good.nil _)
    · exact Good.nil g
  | case5 _ s b hb _ hex stop s1 hcut ih =>
    obtain ⟨j, hj, hoff, hgj⟩ := hp.inBlock b hb
    have hfull : stop = b.used c := Nat.le_antisymm (Nat.min_le_left _ _) (Nat.not_lt.mp hcut)
    obtain ⟨news, hplan, hgood⟩ := ih _ (Nat.le_succ_of_le hcur) (.start_succ c hb)
    refine ⟨planRange b s stop :: news, ?_, fun suffix h1 h2 => Good.cons g _ _ _ j
      (rangeOK_planRange hb hcur hj hoff (Nat.min_le_left _ _)) hgj (fun _ => ⟨hfull, rfl⟩) (hgood suffix h1 h2)⟩
    rw [hplan]
    show (planAdd b s stop).plan ++ news = _
    rw [(planAdd_plan b s stop).1, if_pos (hfull ▸ Nat.lt_of_not_le hex), List.append_assoc]; rfl

/-- the range a cursor read plans in the tail block -/
def tailPlan (c : Cfg) (a : ATopic) : List ARange :=
  match a.writer with
  | some w =>
    let tailStart := if a.tailId = w.id then a.tailOff else 0
    if tailStart < w.used c then
      [{ es := w.es, start := tailStart, stop := w.used c, isTail := true, chainIdx := 0, blkId := w.id }]
    else []
  | none => []

theorem statefulPlan_eq (c : Cfg) (a : ATopic) (maxB : Nat) :
    statefulPlan c a maxB =
      let s := planLoop c a.chain maxB false (a.chain.length + 1) ⟨a.curIdx, a.curOff, 0, 0, []⟩
      s.plan ++ if s.curIdx ≥ a.chain.length then tailPlan c a else [] := by
  fun_cases statefulPlan c a maxB <;> simp +zetaDelta [tailPlan, *]

theorem statefulPlan_at_end (c : Cfg) {a : ATopic} (maxB : Nat) (hidx : a.curIdx = a.chain.length) :
    statefulPlan c a maxB = tailPlan c a := by
  rw [statefulPlan_eq, planLoop]
  simp [hidx]

end WalrusVerif.AEng
