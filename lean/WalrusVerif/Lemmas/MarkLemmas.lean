import WalrusVerif.Lemmas.EngFrame
/-!
Clean/dirty markers in the storage-level model `Eng` (`topic_clean.rs`): the invariant behind C17.
-/
namespace WalrusVerif.Eng
open WalrusVerif

/-- what `topic_is_clean` answers -/
def reported (i : Inst) (t : Topic) : Bool := ((i.cleanStates.get? t).map (·.2)).getD true

/-- `update_state` records the desired state of `t`; of the marker state it touches nothing else but the pending list -/
theorem markClean_states (i : Inst) (t : Topic) (b : Bool) :
    ∃ g, (markClean i t b).cleanStates = i.cleanStates.insert t (g, b) ∧ (markClean i t b).dir = i.dir := by
  fun_cases markClean i t b <;> exact ⟨_, rfl, rfl⟩

theorem get?_mergeMarkers (states : AMap Topic (Nat × Bool)) (l : List Topic) (m : AMap Topic (Nat × Bool)) (t : Topic) :
    (mergeMarkers states l m).get? t = if t ∈ l then (states.get? t).or (m.get? t) else m.get? t := by
  fun_induction mergeMarkers states l m with
  | case1 => simp
  | case2 x r m st hx ih =>
    rw [ih, AMap.get?_insert]
    by_cases h : x = t
    · subst h; simp [hx]
    · simp [h, Ne.symm h]
  | case3 x r m hx ih =>
    rw [ih]
    by_cases h : x = t
    · subst h; simp [hx]
    · simp [Ne.symm h]

/-- what directory 0 has on record for a topic (what a later open will report) -/
def dirReported (p : Proc) (t : Topic) : Bool :=
  ((((p.dirs.get? 0).getD {}).markers.get? t).map (·.2)).getD true

/-- the marker invariant: the live instance (or, when none is open, the marker file) reports exactly the expected
state of every topic.  The last conjunct carries it through `close` and `persist`: they write only the topics present in
`cleanStates`, so for the others the marker file must be right already.  Directory 0 is where the one instance of C17's
histories lives. -/
def MInv (p : Proc) (e : Topic → Bool) : Prop :=
  match p.inst with
  | none => ∀ t, dirReported p t = e t
  | some i => i.dir = 0 ∧ ∀ t, reported i t = e t ∧ (i.cleanStates.get? t = none → dirReported p t = e t)

theorem MInv.reported_eq {p : Proc} {e : Topic → Bool} {i : Inst} (h : MInv p e) (hi : p.inst = some i) (t : Topic) :
    reported i t = e t := by
  unfold MInv at h; rw [hi] at h; exact (h.2 t).1

theorem MInv.congr {p p' : Proc} {e : Topic → Bool} (hd : p'.dirs = p.dirs)
    (hi : p'.inst.map Inst.marks = p.inst.map Inst.marks) (h : MInv p e) : MInv p' e := by
  have hr : ∀ t, dirReported p' t = dirReported p t := fun t => by unfold dirReported; rw [hd]
  unfold MInv at h ⊢
  cases hp : p.inst <;> cases hp' : p'.inst <;> simp only [hp, hp', Option.map_none, Option.map_some, reduceCtorEq,
    Option.some.injEq, Inst.marks_eq] at hi h ⊢
  · simpa only [hr] using h
  · simpa only [reported, hr, hi.1, hi.2.1] using h

/-- `mark_topic_clean/dirty` and the dirty mark of an append -/
theorem minv_mark {p p' : Proc} {i i' : Inst} {e : Topic → Bool} {t : Topic} {b : Bool} (hi : p.inst = some i)
    (hd : p'.dirs = p.dirs) (hi' : p'.inst = some i') (hm : i'.marks = (markClean i t b).marks) (h : MInv p e) :
    MInv p' (fun t' => if t' = t then b else e t') := by
  obtain ⟨g, hs, hdir⟩ := markClean_states i t b
  unfold MInv at h ⊢
  rw [hi] at h; rw [hi']
  simp only [Inst.marks_eq, hs, hdir] at hm
  refine ⟨hm.1 ▸ h.1, fun t' => ?_⟩
  have := h.2 t'
  unfold reported dirReported at this ⊢
  rw [hm.2.1, hd, AMap.get?_insert]
  by_cases ht : t = t'
  · subst ht; simp
  · simpa [ht, Ne.symm ht] using this

theorem minv_persist (p : Proc) (e : Topic → Bool) (h : MInv p e) : MInv (persistMarkers p) e := by
  fun_cases persistMarkers p with
  | case1 | case2 => exact h
  | case3 i hi _ d markers =>
    unfold MInv at h ⊢
    rw [hi] at h
    refine ⟨h.1, fun t => ⟨(h.2 t).1, fun hn => ?_⟩⟩
    have := (h.2 t).2 hn
    unfold dirReported at this ⊢
    simpa [h.1, markers, get?_mergeMarkers, hn, d] using this

theorem minv_closeInst (p : Proc) (e : Topic → Bool) (h : MInv p e) :
    (closeInst p).inst = none ∧ MInv (closeInst p) e := by
  fun_cases closeInst p with
  | case1 hi => exact ⟨hi, h⟩
  | case2 i hi d markers =>
    refine ⟨rfl, fun t => ?_⟩
    unfold MInv at h
    rw [hi] at h
    have := h.2 t
    unfold reported dirReported at this
    unfold dirReported
    simp only [h.1, AMap.get?_insert_self, Option.getD_some, markers, get?_mergeMarkers]
    cases hg : i.cleanStates.get? t with
    | none => simpa [hg, d, h.1] using this.2 hg
    | some v => simpa [hg, show t ∈ i.cleanStates.keys from List.mem_map_of_mem (AMap.mem_of_get? hg)] using this.1

theorem marks_scanFile (c : Cfg) (f : Nat) (cells : List Cell) (fuel off : Nat) (s : ScanSt) :
    (scanFile c f cells fuel off s).inst.marks = s.inst.marks := by
  fun_induction scanFile c f cells fuel off s with
  -- the scan goes on, behind a garbage unit or a registered block (`appendBlockToChain` keeps the marks by `rfl`)
  | case3 | case6 => assumption
  | _ => rfl

theorem marks_scanFold (c : Cfg) (l : List (Nat × FileSt)) (s : ScanSt) :
    (l.foldl (fun s (x : Nat × FileSt) =>
      scanFile c x.1 x.2.cells (c.blocksPerFile + 1) 0 { s with trk := s.trk.registerFileIfAbsent x.1 }) s).inst.marks
      = s.inst.marks := by
  induction l generalizing s with
  | nil => rfl
  | cons x r ih => rw [List.foldl_cons, ih, marks_scanFile]

/-- `Walrus::with_paths`: the new instance starts from the directory's marker file and touches no
directory state -/
theorem openInst_marks_side (c : Cfg) (p : Proc) (dir : Nat) (mode : Mode) :
    ∃ i', (openInst c p dir mode).inst = some i' ∧
      i'.marks = (dir, ((p.dirs.get? dir).getD {}).markers, []) ∧ (openInst c p dir mode).side = p.side := by
  unfold openInst
  simp only
  refine ⟨_, rfl, ?_, rfl⟩
  have := marks_scanFold c
  simp only [Inst.marks] at this ⊢
  rw [this]
  rfl

theorem minv_open (c : Cfg) (p : Proc) (mode : Mode) (e : Topic → Bool) (hn : p.inst = none) (h : MInv p e) :
    MInv (openInst c p 0 mode) e := by
  obtain ⟨i', ho⟩ := openInst_marks_side c p 0 mode
  generalize openInst c p 0 mode = q at ho ⊢
  unfold MInv at h ⊢
  rw [hn] at h
  rw [ho.1]
  have hm := ho.2.1
  simp only [Inst.marks, Prod.mk.injEq] at hm
  refine ⟨hm.1, fun t => ?_⟩
  have hr : reported i' t = e t := by rw [← h t]; unfold reported dirReported; rw [hm.2.1]
  exact ⟨hr, fun _ => by rw [← h t]; unfold dirReported; rw [show q.dirs = p.dirs from congrArg (·.1) ho.2.2]⟩

end WalrusVerif.Eng
