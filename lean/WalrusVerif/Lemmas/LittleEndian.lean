import WalrusVerif.Model.Meta
/-! Little-endian fixed-width integers: one recursive encoder `encLE`, which `Meta.leNat` inverts up to
`% 256 ^ n`; `Snap.encU64` and `Frame.enc32` are its instances at 8 and 4 bytes. -/
namespace WalrusVerif.Meta

/-- the `n` low base-256 digits of `k`, least significant first -/
def encLE : Nat → Nat → List UInt8
  | 0, _ => []
  | n + 1, k => UInt8.ofNat (k % 256) :: encLE n (k / 256)

theorem encLE_length (n k : Nat) : (encLE n k).length = n := by
  induction n generalizing k with
  | zero => rfl
  | succ n ih => simp [encLE, ih]

theorem leNat_encLE (n k : Nat) : leNat (encLE n k) = k % 256 ^ n := by
  induction n generalizing k with
  | zero => simp [encLE, leNat, Nat.mod_one]
  | succ n ih =>
    -- `k % (256 * 256 ^ n) = k % 256 + 256 * (k / 256 % 256 ^ n)`
    rw [encLE, leNat, ih, Nat.pow_succ', Nat.mod_mul, UInt8.toNat_ofNat']
    simp

theorem map_range_eq_encLE (n k : Nat) :
    (List.range n).map (fun i => UInt8.ofNat (k / 256 ^ i % 256)) = encLE n k := by
  induction n generalizing k with
  | zero => rfl
  | succ n ih =>
    rw [List.range_succ_eq_map, List.map_cons, List.map_map, encLE, ← ih]
    simp [Function.comp_def, Nat.pow_succ', Nat.div_div_eq_div_mul]

theorem takeN_append (a rest : List UInt8) : takeN a.length (a ++ rest) = some (a, rest) := by
  simp [takeN]

end WalrusVerif.Meta
