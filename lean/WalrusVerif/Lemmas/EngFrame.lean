import WalrusVerif.Model.Engine
import WalrusVerif.Lemmas.AMapLemmas
/-!
Footprints of the operations of the storage-level model `Eng`.

The footprint of an operation says that the state after it is the state before it with certain fields replaced:
`WriteEffect` for the write path, `AllocEffect` for the part of it that writes no entry, `ReadEffect` for the read
path.  Footprints compose (`refl`, `trans`; `ReadInst` by `putReader`, `setIndex`, `persistIf`, `decCount` under a budget
of index persists), so the footprint of a function of the model is read off its branches and calls: one lemma per
function (`*_effect`; `*_outcome` where it also says what the function answers).  That an operation leaves some part of
the state alone is a projection of its footprint (`.side`, `.marks`, `.files`, `.wside`, `.log`): the facts of this kind
behind C06, C07/C09, C13 and C17 come from here.  `step_call` carries the footprints over to `step`.
-/
namespace WalrusVerif.Eng
open WalrusVerif

/-- the parts of the process state that only `open`/`close`/`persist`/`restart`, a process death (`kill` through
`abandonInst`, `crashAt` through `dieWith`: both write the index into `dirs`) and operations addressed to the second
instance touch: directory contents (index, markers), the second instance, the addressed directory -/
def Proc.side (p : Proc) : AMap Nat DirSt × Option Inst × Nat := (p.dirs, p.inst2, p.curDir)

/-- what the clean-marker logic of an instance reads or writes -/
def Inst.marks (i : Inst) : Nat × AMap Topic (Nat × Bool) × List Topic := (i.dir, i.cleanStates, i.cleanPending)

/-- what the decisions of the write path read besides the files: the allocator position and the writers (it also
updates reader chains and counts, on which none of its decisions depends: `WriteEffect.inst`) -/
def Inst.wside (i : Inst) : Nat × Nat × Nat × AMap Topic Writer := (i.allocFile, i.allocOff, i.allocId, i.writers)

/-- `p'` has the files of `p`, untouched, plus possibly new empty files -/
def FilesExt (p p' : Proc) : Prop := ∃ extra : List FileSt, p'.files = p.files ++ extra ∧ ∀ fs ∈ extra, fs.cells = []

theorem Inst.marks_eq {i j : Inst} :
    i.marks = j.marks ↔ i.dir = j.dir ∧ i.cleanStates = j.cleanStates ∧ i.cleanPending = j.cleanPending := by
  simp only [Inst.marks, Prod.mk.injEq]

@[simp] theorem marks_putReader (i : Inst) (t : Topic) (x : ColInfo) : (putReader i t x).marks = i.marks := rfl
@[simp] theorem marks_setIndex (i : Inst) (t : Topic) (x : Pos) : (setIndex i t x).marks = i.marks := rfl
@[simp] theorem idxLog_putReader (i : Inst) (t : Topic) (x : ColInfo) : (putReader i t x).idxLog = i.idxLog := rfl
@[simp] theorem idxLog_setIndex (i : Inst) (t : Topic) (x : Pos) : (setIndex i t x).idxLog = i.idxLog ++ [(t, x)] := rfl
@[simp] theorem dirs_createFile (p : Proc) (d : Nat) : (p.createFile d).1.side = p.side := rfl

theorem filesExt_of_eq (p p' : Proc) (h : p'.files = p.files) : FilesExt p p' := ⟨[], by simp [h], by simp⟩
theorem filesExt_trans {a b c : Proc} (h1 : FilesExt a b) (h2 : FilesExt b c) : FilesExt a c := by
  obtain ⟨e1, h1, g1⟩ := h1
  obtain ⟨e2, h2, g2⟩ := h2
  exact ⟨e1 ++ e2, by rw [h2, h1, List.append_assoc], List.forall_mem_append.mpr ⟨g1, g2⟩⟩

theorem fileCells_filesExt {p p' : Proc} (h : FilesExt p p') {f : Nat} (hf : f < p.files.length) :
    fileCells p'.files f = fileCells p.files f := by
  obtain ⟨extra, he, _⟩ := h
  unfold fileCells
  rw [he, List.getElem?_append_left hf]

theorem fileCells_updFileCells (files : List FileSt) (f k : Nat) (g : List Cell → List Cell) :
    fileCells (updFileCells files f g) k = if k = f ∧ k < files.length then g (fileCells files k) else fileCells files k := by
  unfold fileCells updFileCells
  rw [List.getElem?_mapIdx]
  by_cases hk : k < files.length
  · simp only [List.getElem?_eq_getElem hk, Option.map_some, hk, and_true]
    split <;> rfl
  · simp [hk]

theorem length_updFileCells (files : List FileSt) (f : Nat) (g : List Cell → List Cell) :
    (updFileCells files f g).length = files.length := by unfold updFileCells; simp

structure WriteEffect (p : Proc) (i : Inst) (p' : Proc) (i' : Inst) : Prop where
  proc : ∃ fs trk lm, p' = { p with files := fs, trk := trk, lastMillis := lm }
  inst : ∃ id f off ws rd cnt,
    i' = { i with allocId := id, allocFile := f, allocOff := off, writers := ws, readers := rd, counts := cnt }

namespace WriteEffect
variable {p p' p'' : Proc} {i i' i'' : Inst}

/-- the leaf of a footprint proof: unification finds the replaced fields in the state the model wrote down -/
theorem mk' {fs trk lm id f off ws rd cnt} :
    WriteEffect p i { p with files := fs, trk := trk, lastMillis := lm }
      { i with allocId := id, allocFile := f, allocOff := off, writers := ws, readers := rd, counts := cnt } :=
  ⟨⟨_, _, _, rfl⟩, _, _, _, _, _, _, rfl⟩

theorem refl (p : Proc) (i : Inst) : WriteEffect p i p i := mk'

theorem trans (h : WriteEffect p i p' i') (h' : WriteEffect p' i' p'' i'') : WriteEffect p i p'' i'' := by
  obtain ⟨⟨_, _, _, rfl⟩, _, _, _, _, _, _, rfl⟩ := h
  obtain ⟨⟨_, _, _, rfl⟩, _, _, _, _, _, _, rfl⟩ := h'
  exact mk'

theorem side (h : WriteEffect p i p' i') : p'.side = p.side := by obtain ⟨⟨_, _, _, rfl⟩, _⟩ := h; rfl
theorem marks (h : WriteEffect p i p' i') : i'.marks = i.marks := by obtain ⟨_, _, _, _, _, _, _, rfl⟩ := h; rfl
end WriteEffect

/-- rotation and planning write no entry: they may only add new, empty files -/
structure AllocEffect (p : Proc) (i : Inst) (p' : Proc) (i' : Inst) : Prop extends WriteEffect p i p' i' where
  files : FilesExt p p'

namespace AllocEffect
variable {p p' p'' : Proc} {i i' i'' : Inst}

theorem mk' {trk lm id f off ws rd cnt} :
    AllocEffect p i { p with trk := trk, lastMillis := lm }
      { i with allocId := id, allocFile := f, allocOff := off, writers := ws, readers := rd, counts := cnt } :=
  ⟨.mk', filesExt_of_eq _ _ rfl⟩

theorem refl (p : Proc) (i : Inst) : AllocEffect p i p i := mk'

theorem trans (h : AllocEffect p i p' i') (h' : AllocEffect p' i' p'' i'') : AllocEffect p i p'' i'' :=
  ⟨h.1.trans h'.1, filesExt_trans h.2 h'.2⟩

/-- a step taken under a condition, as the allocator's roll-over to a new file -/
theorem ite {cond : Prop} [Decidable cond] {x r : Proc × Inst} (e : (if cond then x else (p, i)) = r)
    (h : AllocEffect p i x.1 x.2) : AllocEffect p i r.1 r.2 := by
  subst e; split
  · exact h
  · exact .refl p i
end AllocEffect

/- The footprint of a function of the write path is stated about any `r` that the call equals: inside the callers,
`fun_cases` hands out the calls as equations `f .. = (p1, i1, ..)`. -/

theorem sealBlock_effect {p i t b u r} (h : sealBlock p i t b u = r) : AllocEffect p i r.1 r.2 :=
  h ▸ .mk'

theorem allocBlock_effect {c p i want r} : allocBlock c p i want = some r → AllocEffect p i r.1 r.2.1 := by
  fun_cases allocBlock c p i want with
  | case1 => nofun
  | case2 _ _ _ _ _ hroll =>
    rintro ⟨⟩
    exact (AllocEffect.ite hroll ⟨.mk', [_], rfl, by simp⟩).trans .mk'

theorem getNextAvailableBlock_effect {c p i r} : getNextAvailableBlock c p i = r → AllocEffect p i r.1 r.2.1 := by
  rintro rfl
  fun_cases getNextAvailableBlock c p i with
  | case1 _ _ hroll => exact (AllocEffect.ite hroll ⟨.mk', [_], rfl, by simp⟩).trans .mk'

theorem getOrCreateWriter_effect {c p i t r} : getOrCreateWriter c p i t = r → AllocEffect p i r.1 r.2.1 := by
  rintro rfl
  fun_cases getOrCreateWriter c p i t with
  | case1 => exact .refl p i
  | case2 => exact (getNextAvailableBlock_effect ‹_›).trans .mk'

theorem planBatch_effect {c t ps p i b off acc r} : planBatch c t ps p i b off acc = r → AllocEffect p i r.1 r.2.1 := by
  rintro rfl
  fun_induction planBatch c t ps p i b off acc with
  | case1 => exact .refl _ _
  | case2 => assumption
  | case3 => exact sealBlock_effect ‹_›
  | case4 => exact ((sealBlock_effect ‹_›).trans (allocBlock_effect ‹_›)).trans ‹_›

theorem writerWriteCore_outcome {c p i t w pay flt r} : writerWriteCore c p i t w pay flt = r →
    WriteEffect p i r.1 r.2.1 ∧ r.2.2 ≠ some .closed ∧ (r.2.2 ≠ none → FilesExt p r.1) := by
  rintro rfl
  -- the rotation, which the model binds in a `let` that `fun_cases` does not open
  have hrot : ∀ x, (if w.off + (c.metaSz + pay.len) > w.blk.limit then
      match allocBlock c (sealBlock p i t w.blk w.off).1 (sealBlock p i t w.blk w.off).2 (c.metaSz + pay.len) with
      | none => none
      | some (p, i, nb) => some (p, i, { w with blk := nb, off := 0 })
    else some (p, i, w)) = some x → AllocEffect p i x.1 x.2.1 := by
    intro x h
    split at h
    · split at h
      · cases h
      · cases h; exact (sealBlock_effect rfl).trans (allocBlock_effect ‹_›)
    · cases h; exact .refl p i
  -- case1: the writer is batching; case2: the allocation behind the seal was refused; case3, case4: the entry write
  -- fails (injected fault, topic name too long), after the rotation if there was one; case5: the entry is written
  fun_cases writerWriteCore c p i t w pay flt with
  | case1 => exact ⟨.refl p i, by simp, fun _ => filesExt_of_eq _ _ rfl⟩
  | case2 => have h := sealBlock_effect ‹_›; exact ⟨h.1, by simp, fun _ => h.2⟩
  | case3 | case4 => have h := hrot _ ‹_›; exact ⟨h.1.trans .mk', by simp, fun _ => h.2⟩
  | case5 => exact ⟨(hrot _ ‹_›).1.trans .mk', by simp, fun h => absurd rfl h⟩

theorem writerWrite_outcome {c p i t w pay flt r} : writerWrite c p i t w pay flt = r →
    WriteEffect p i r.1 r.2.1 ∧ r.2.2 ≠ some .closed ∧ (r.2.2 ≠ none → FilesExt p r.1) := by
  rintro rfl
  fun_cases writerWrite c p i t w pay flt with
  | case1 => exact ⟨.refl p i, by simp, fun _ => filesExt_of_eq _ _ rfl⟩
  | case2 => exact writerWriteCore_outcome rfl

theorem writerBatchWriteCore_outcome {c p i t w ps flt r} :
    writerBatchWriteCore c p i t w ps flt = r → WriteEffect p i r.1 r.2.1 ∧ r.2.2 ≠ some .closed := by
  rintro rfl
  fun_cases writerBatchWriteCore c p i t w ps flt with
  -- the batch was planned: the allocation failed, a write failed and was rolled back, or all was written
  | case6 | case7 | case8 => exact ⟨(planBatch_effect ‹_›).1.trans .mk', by simp⟩
  | _ => exact ⟨.refl p i, by simp⟩

theorem writerBatchWrite_outcome {c p i t w ps flt r} :
    writerBatchWrite c p i t w ps flt = r → WriteEffect p i r.1 r.2.1 ∧ r.2.2 ≠ some .closed := by
  rintro rfl
  fun_cases writerBatchWrite c p i t w ps flt with
  | case1 => exact ⟨.refl p i, by simp⟩
  | case2 => exact writerBatchWriteCore_outcome rfl

theorem incCount_effect (p : Proc) (i : Inst) (t : Topic) (d : Nat) : WriteEffect p i p (incCount i t d) := by
  unfold incCount; split
  · exact .refl _ _
  · exact .mk'

structure AppendOutcome (p : Proc) (i : Inst) (t : Topic) (r : Proc × Inst × Out) : Prop
    extends WriteEffect p (markClean i t false) r.1 r.2.1 where
  out : r.2.2 = .ok ∨ ∃ e, r.2.2 = .err e ∧ e ≠ .closed

theorem appendForTopic_outcome {c p i t pay flt r} :
    appendForTopic c p i t pay flt = r → AppendOutcome p i t r ∧ (r.2.2 ≠ .ok → FilesExt p r.1) := by
  rintro rfl
  fun_cases appendForTopic c p i t pay flt
  all_goals
    have h1 := getOrCreateWriter_effect ‹_›
    have h2 := writerWrite_outcome ‹_›
  · exact ⟨⟨h1.1.trans h2.1, .inr ⟨_, rfl, fun he => h2.2.1 (he ▸ rfl)⟩⟩, fun _ => filesExt_trans h1.2 (h2.2.2 nofun)⟩
  · exact ⟨⟨(h1.1.trans h2.1).trans (incCount_effect _ _ t 1), .inl rfl⟩, fun h => absurd rfl h⟩

theorem batchAppendForTopic_outcome {c p i t ps flt r} : batchAppendForTopic c p i t ps flt = r → AppendOutcome p i t r := by
  rintro rfl
  fun_cases batchAppendForTopic c p i t ps flt
  all_goals
    have h1 := getOrCreateWriter_effect ‹_›
    have h2 := writerBatchWrite_outcome ‹_›
  · exact ⟨h1.1.trans h2.1, .inr ⟨_, rfl, fun he => h2.2 (he ▸ rfl)⟩⟩
  · exact ⟨(h1.1.trans h2.1).trans (incCount_effect _ _ t _), .inl rfl⟩

structure ReadInst (t : Topic) (n : Nat) (i i' : Inst) : Prop where
  inst : ∃ rd idx cnt lg, i' = { i with readers := rd, index := idx, counts := cnt, idxLog := lg }
  log : ∃ l, i'.idxLog = i.idxLog ++ l ∧ l.length ≤ n ∧ ∀ x ∈ l, x.1 = t

namespace ReadInst
variable {t : Topic} {n : Nat} {i i' : Inst}

theorem refl : ReadInst t n i i := ⟨⟨_, _, _, _, rfl⟩, [], by simp, by simp, by simp⟩

theorem putReader (h : ReadInst t n i i') (x : ColInfo) : ReadInst t n i (putReader i' t x) := by
  obtain ⟨⟨_, _, _, _, rfl⟩, hl⟩ := h
  exact ⟨⟨_, _, _, _, rfl⟩, hl⟩

theorem decCount (h : ReadInst t n i i') (d : Nat) : ReadInst t n i (decCount i' t d) := by
  unfold Eng.decCount
  split
  · exact h
  · obtain ⟨⟨_, _, _, _, rfl⟩, hl⟩ := h
    exact ⟨⟨_, _, _, _, rfl⟩, hl⟩

theorem setIndex (h : ReadInst t n i i') (x : Pos) : ReadInst t (n + 1) i (setIndex i' t x) := by
  obtain ⟨⟨_, _, _, _, rfl⟩, l, hl, hn, ht⟩ := h
  exact ⟨⟨_, _, _, _, rfl⟩, l ++ [(t, x)], by rw [idxLog_setIndex, hl, List.append_assoc], by simpa using hn,
    List.forall_mem_append.mpr ⟨ht, List.forall_mem_singleton.mpr rfl⟩⟩

theorem mono {m : Nat} (h : ReadInst t n i i') (hm : n ≤ m) : ReadInst t m i i' :=
  ⟨h.inst, h.log.imp fun _ hl => ⟨hl.1, Nat.le_trans hl.2.1 hm, hl.2.2⟩⟩

/-- `if persist then index.set(..)` -/
theorem persistIf (h : ReadInst t n i i') (b : Bool) (x : Pos) :
    ReadInst t (n + 1) i (if b then Eng.setIndex i' t x else i') := by
  split
  · exact h.setIndex x
  · exact h.mono (Nat.le_succ n)

end ReadInst

/-- two index persists are what `read_next` needs; a batch read makes at most one -/
structure ReadEffect (t : Topic) (p : Proc) (i : Inst) (r : Proc × Inst × Out) : Prop extends ReadInst t 2 i r.2.1 where
  proc : ∃ trk, r.1 = { p with trk := trk }

namespace ReadEffect
variable {t : Topic} {p : Proc} {i : Inst} {r : Proc × Inst × Out}
/-- as `WriteEffect.mk'` -/
theorem mk' {i' : Inst} {trk : Trackers} {o : Out} (h : ReadInst t 2 i i') : ReadEffect t p i ({ p with trk := trk }, i', o) :=
  ⟨h, _, rfl⟩
theorem side (h : ReadEffect t p i r) : r.1.side = p.side := by obtain ⟨_, e⟩ := h.proc; rw [e]; rfl
theorem files (h : ReadEffect t p i r) : r.1.files = p.files := by obtain ⟨_, e⟩ := h.proc; rw [e]
theorem marks (h : ReadEffect t p i r) : r.2.1.marks = i.marks := by obtain ⟨_, _, _, _, e⟩ := h.inst; rw [e]; rfl
theorem wside (h : ReadEffect t p i r) : r.2.1.wside = i.wside := by obtain ⟨_, _, _, _, e⟩ := h.inst; rw [e]; rfl
end ReadEffect

/-- the forced provisional persist of the tail path of `read_next`: one persist on top of any budget `n` (the callers'
goal fixes `n`) -/
theorem tailInit_inst {i i1 : Inst} {t : Topic} {n : Nat} {cond : Prop} [Decidable cond] {m : Mode} {info info1 : ColInfo}
    {pos : Pos}
    (h : (if cond then (match shouldPersist m info true with | (info, _) => (info, setIndex i t pos)) else (info, i)) =
      (info1, i1)) : ReadInst t (n + 1) i i1 := by
  split at h <;> cases h
  · exact ReadInst.refl.setIndex pos
  · exact .refl

theorem readNextLoop_effect (c : Cfg) (t : Topic) (cp : Bool) (fuel : Nat) (p : Proc) (i : Inst) (info : ColInfo) :
    ReadEffect t p i (readNextLoop c t cp fuel p i info) := by
  -- index persists: case3 (an entry consumed from the sealed chain) ≤ 1; case7 (from the tail) the provisional one and
  -- ≤ 1 more, hence 2; case8-10 (tail path, nothing consumed) the provisional one; case2 loops on, the rest return at once
  fun_induction readNextLoop c t cp fuel p i info with
  | case2 => rename_i ih; exact ⟨ih.1, ih.proc⟩
  | case3 => exact .mk' (((ReadInst.refl.putReader _).persistIf _ _).decCount _)
  | case7 => exact .mk' ((((tailInit_inst ‹_›).putReader _).persistIf _ _).decCount _)
  | case8 | case9 | case10 => exact .mk' ((tailInit_inst ‹_›).putReader _)
  | _ => exact .mk' (ReadInst.refl.putReader _)

theorem readNext_effect (c : Cfg) (p : Proc) (i : Inst) (t : Topic) (cp : Bool) :
    ReadEffect t p i (readNext c p i t cp) := readNextLoop_effect ..

theorem statefulCommit_effect {t : Topic} {n : Nat} {i i' : Inst} (h : ReadInst t n i i') (info : ColInfo) (ps : PState)
    (cp : Bool) : ReadInst t (n + 1) i (statefulCommit i' t info ps cp) := by
  unfold statefulCommit
  extract_lets i1
  have key : ReadInst t (n + 1) i i1 := by
    simp only [i1]
    split
    · split
      · exact (h.putReader _).setIndex _
      · exact (h.putReader _).mono (Nat.le_succ n)
    · exact h.mono (Nat.le_succ n)
  split
  · exact key.decCount _
  · exact key

theorem batchRead_effect (c : Cfg) (p : Proc) (i : Inst) (t : Topic) (m : Nat) (cp : Bool) (st : Option Nat) :
    ReadEffect t p i (batchRead c p i t m cp st) := by
  fun_cases batchRead c p i t m cp st with
  | case1 => exact .mk' (ReadInst.refl.putReader _)
  | case2 => exact .mk' (statefulCommit_effect (ReadInst.refl.putReader _) _ _ cp)
  | _ => exact .mk' .refl

theorem withInst_none (p : Proc) (f : Inst → Proc × Inst × Out) (h : p.inst = none) :
    withInst p f = (p, .err .closed) := by unfold withInst; rw [h]

theorem withInst_some (p : Proc) (f : Inst → Proc × Inst × Out) (i : Inst) (h : p.inst = some i) :
    withInst p f = ({ (f i).1 with inst := some (f i).2.1 }, (f i).2.2) := by unfold withInst; rw [h]

theorem withInst_side (p : Proc) (f : Inst → Proc × Inst × Out) (hf : ∀ i, (f i).1.side = p.side) :
    (withInst p f).1.side = p.side := by
  cases hi : p.inst with
  | none => rw [withInst_none p f hi]
  | some i => rw [withInst_some p f i hi]; exact hf i

theorem withInst_files (p : Proc) (f : Inst → Proc × Inst × Out) (hf : ∀ i, (f i).1.files = p.files) :
    (withInst p f).1.files = p.files := by
  cases hi : p.inst with
  | none => rw [withInst_none p f hi]
  | some i => rw [withInst_some p f i hi]; exact hf i

/-- the operations that `step` runs as one call on the live instance (`withInst`) -/
def IsCall : Op → Prop
  | .append .. | .batch .. | .appendF .. | .batchF .. | .next .. | .bread .. | .count _ | .size _ | .mark .. | .isClean _ => True
  | _ => False

/-- the topic and the state that a call sets when it goes through: `mark_topic_*`, and the dirty mark of every append -/
def sets : Op → Option (Topic × Bool)
  | .append t _ | .batch t _ | .appendF t _ _ | .batchF t _ _ => some (t, false)
  | .mark t b => some (t, b)
  | _ => none

/-- what a call on the live instance `i` does outside the files and the instance's own queues; `answers`: a call that
sets a mark does not answer `.err .closed`, the answer on which `expectAfter` of Props/C17 branches -/
structure CallEffect (p : Proc) (i : Inst) (m : Option (Topic × Bool)) (r : Proc × Inst × Out) : Prop where
  side : r.1.side = p.side
  marks : r.2.1.marks = (m.elim i fun x => markClean i x.1 x.2).marks
  answers : m.isSome → r.2.2 ≠ .err .closed

theorem AppendOutcome.call {p i t r} (h : AppendOutcome p i t r) : CallEffect p i (some (t, false)) r := by
  refine ⟨h.side, h.marks, fun _ hc => ?_⟩
  rcases h.out with ho | ⟨e, ho, he⟩ <;> rw [ho] at hc <;> cases hc
  exact he rfl

theorem ReadEffect.call {t p i r} (h : ReadEffect t p i r) : CallEffect p i none r := ⟨h.side, h.marks, nofun⟩

theorem step_call (c : Cfg) (p : Proc) {op : Op} (h : IsCall op) :
    ∃ f, step c p op = withInst p f ∧ ∀ i, CallEffect p i (sets op) (f i) := by
  cases op with
  | append t pay => exact ⟨_, rfl, fun i => (appendForTopic_outcome rfl).1.call⟩
  | batch t ps => exact ⟨_, rfl, fun i => (batchAppendForTopic_outcome rfl).call⟩
  | appendF t pay flt => exact ⟨_, rfl, fun i => (appendForTopic_outcome rfl).1.call⟩
  | batchF t ps flt => exact ⟨_, rfl, fun i => (batchAppendForTopic_outcome rfl).call⟩
  | next t cp => exact ⟨_, rfl, fun i => (readNext_effect c p i t cp).call⟩
  | bread t m cp st => exact ⟨_, rfl, fun i => (batchRead_effect c p i t m cp st).call⟩
  | count | size | isClean | mark => exact ⟨_, rfl, fun i => ⟨rfl, rfl, nofun⟩⟩
  | _ => exact h.elim

end WalrusVerif.Eng
