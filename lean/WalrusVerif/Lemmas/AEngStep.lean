import WalrusVerif.Lemmas.AEngProgress
import WalrusVerif.Lemmas.AEngRead
import WalrusVerif.Lemmas.AEngWrite
import WalrusVerif.Lemmas.AMapLemmas
import WalrusVerif.Lemmas.SpecStep
/-! One step of the entry-level model is one step of the specification, for every topic at once (`step_sim`).  The
state stores no consumed index: `K : Topic → Nat` is a ghost, one index per topic, and `step_sim` returns the next one. -/
namespace WalrusVerif.AEng
open WalrusVerif WalrusVerif.Eng

/-- configuration sanity (what `config.rs` satisfies: `Props.C01.realCfg_ok`, and `smallCfg_ok` for the small
geometry of the correspondence runs).  The lemmas of the imported files take the fields they need one by one, as
`hm`, `hb0`, `hbs`, `hcap`. -/
structure CfgOK (c : Cfg) : Prop where
  meta_pos : 0 < c.metaSz
  bs_pos : 0 < c.blockSize
  bs_le : c.blockSize ≤ c.maxAlloc
  cap_pos : 0 < c.cap

def specOf (s : AState) (K : Topic → Nat) : Spec := ⟨fun t => log (s.topic t), K⟩

/-- every topic has `TInv` at its ghost index `K t`, and its `count` is what is left of the log behind it -/
structure SInv (c : Cfg) (s : AState) (K : Topic → Nat) : Prop where
  topic : ∀ t, TInv c s.nextId (s.topic t) (K t)
  count : ∀ t, (s.topic t).count = (log (s.topic t)).length - K t

theorem sinv_init (c : Cfg) : SInv c {} (fun _ => 0) :=
  ⟨fun _ => tinv_init c 1 Nat.one_pos, fun _ => rfl⟩

theorem specOf_init : specOf {} (fun _ => 0) = Spec.init := rfl

theorem topic_insert (m : AMap Topic ATopic) (n : Nat) (t : Topic) (a : ATopic) :
    (⟨n, m.insert t a⟩ : AState).topic = upd (⟨n, m⟩ : AState).topic t a := by
  funext t'
  simp only [AState.topic, AMap.get?_insert, upd, eq_comm (a := t')]
  split <;> rfl

theorem sim_put (c : Cfg) (s : AState) (K : Topic → Nat) (h : SInv c s K) (t : Topic) (a : ATopic) (n k : Nat)
    (hn : s.nextId ≤ n) (ha : TInv c n a k) (hc : a.count = (log a).length - k) :
    SInv c ⟨n, s.topics.insert t a⟩ (upd K t k) ∧
      specOf ⟨n, s.topics.insert t a⟩ (upd K t k) = ⟨upd (specOf s K).log t (log a), upd K t k⟩ := by
  refine ⟨⟨fun t' => ?_, fun t' => ?_⟩, ?_⟩
  · simp only [topic_insert, upd]; split
    · exact ha
    · exact (h.topic t').mono hn
  · simp only [topic_insert, upd]; split
    · exact hc
    · exact h.count t'
  · unfold specOf
    rw [topic_insert]
    congr 1
    funext t'; unfold upd; split <;> rfl

/-- the two append operations on the global state: `r` is what `write` / `batchWrite` returned for
the entries `ps`.  The conclusion is a `match` on `r.2.2` because `step` is one: once `step_sim` has generalized the
call to `r`, the two line up. -/
theorem sim_append (c : Cfg) (s : AState) (K : Topic → Nat) (h : SInv c s K) (t : Topic) (ps : List Pay)
    (r : Nat × ATopic × Option ErrKind) (hr : Appends c s.nextId (s.topic t) (K t) ps r) :
    match r.2.2 with
    | some _ => SInv c ⟨r.1, s.topics.insert t r.2.1⟩ K ∧ specOf ⟨r.1, s.topics.insert t r.2.1⟩ K = specOf s K
    | none =>
      SInv c ⟨r.1, s.topics.insert t { r.2.1 with count := r.2.1.count + ps.length }⟩ K ∧
        specOf ⟨r.1, s.topics.insert t { r.2.1 with count := r.2.1.count + ps.length }⟩ K =
          ⟨upd (specOf s K).log t ((specOf s K).log t ++ ps), K⟩ := by
  obtain ⟨n2, a2, e⟩ := r
  have hcnt := h.count t
  cases e with
  | some e =>
    have hl := hr.err nofun
    have := sim_put c s K h t a2 n2 (K t) hr.id_le hr.inv (by rw [hr.count, hl]; exact hcnt)
    rw [upd_self, hl] at this
    exact ⟨this.1, this.2.trans (congrArg (Spec.mk · K) (upd_self (specOf s K).log t))⟩
  | none =>
    have hl := hr.ok rfl
    have := sim_put c s K h t { a2 with count := a2.count + ps.length } n2 (K t) hr.id_le
      (hr.inv.count_irrel _) (by
        show a2.count + ps.length = (log a2).length - K t
        rw [hr.count, hl, hcnt, List.length_append]; exact (Nat.sub_add_comm (h.topic t).k_le).symm)
    rw [upd_self] at this
    exact ⟨this.1, this.2.trans (congrArg (fun l => (⟨upd (specOf s K).log t l, K⟩ : Spec)) hl)⟩

theorem sim_read (c : Cfg) (s : AState) (K : Topic → Nat) (h : SInv c s K) (t : Topic) (a' : ATopic) (m : Nat)
    (hl : log a' = log (s.topic t)) (hcnt : a'.count = (s.topic t).count - m) (hi : TInv c s.nextId a' (K t + m)) :
    SInv c (s.put t a') (upd K t (K t + m)) ∧ specOf (s.put t a') (upd K t (K t + m)) = ⟨(specOf s K).log, upd K t (K t + m)⟩ := by
  have := sim_put c s K h t a' s.nextId _ (Nat.le_refl _) hi (by rw [hcnt, hl, h.count t]; omega)
  rw [hl] at this
  exact ⟨this.1, this.2.trans (congrArg (Spec.mk · _) (upd_self (specOf s K).log t))⟩

theorem step_sim (c : Cfg) (hc : CfgOK c) (s : AState) (K : Topic → Nat) (h : SInv c s K) (op : AOp) :
    ∃ K', SInv c (step c s op).1 K' ∧ (specOf s K).ok op (step c s op).2 ∧
      specOf (step c s op).1 K' = (specOf s K).after op (step c s op).2 := by
  cases op with
  | append t p =>
    have := sim_append c s K h t [p] _ (.ensured (h.topic t) _ fun hi hw => write_appends hc.meta_pos hi hw t.long p)
    simp only [step]
    generalize write c _ _ _ t.long p = r at this ⊢
    obtain ⟨n2, a2, _ | e⟩ := r <;> exact ⟨K, this.1, trivial, this.2⟩
  | batch t ps =>
    have := sim_append c s K h t ps _
      (.ensured (h.topic t) _ fun hi hw => batchWrite_appends hc.bs_le hc.bs_pos hi hw t.long ps)
    simp only [step]
    generalize batchWrite c _ _ _ t.long ps = r at this ⊢
    obtain ⟨n2, a2, _ | e⟩ := r <;> exact ⟨K, this.1, trivial, this.2⟩
  | next t cp =>
    obtain ⟨hr, hlog, hcnt, hinv⟩ := readNext_spec c hc.meta_pos cp s.nextId (s.topic t) (K t) (h.topic t)
    simp only [step, Spec.ok, Spec.after, hr]
    by_cases hcs : cp = true ∧ ((log (s.topic t))[K t]?).isSome
    · rw [if_pos hcs] at hinv hcnt
      have := sim_read c s K h t _ 1 hlog hcnt hinv
      exact ⟨_, this.1, rfl, by rw [this.2, if_pos hcs]; rfl⟩
    · rw [if_neg hcs] at hinv hcnt
      have := sim_read c s K h t _ 0 hlog hcnt hinv
      rw [Nat.add_zero, upd_self] at this
      exact ⟨_, this.1, rfl, by rw [this.2, if_neg hcs]; rfl⟩
  | bread t m cp start =>
    cases start with
    | some req => exact ⟨K, h, trivial, rfl⟩
    | none =>
      obtain ⟨mm, hes, hlen, hmle, hlog, hcnt, hinv⟩ := batchRead_spec c hc.meta_pos s.nextId (s.topic t) (K t) (h.topic t) m cp
      have hok : (specOf s K).ok (.bread t m cp none) (.entries (batchRead c (s.topic t) m cp).2) := by
        refine ⟨mm, hes, hmle, fun hpend => ?_⟩
        have hlt : K t < (log (s.topic t)).length :=
          Nat.lt_of_not_le fun hge => hpend (List.drop_eq_nil_of_le hge)
        have := batchRead_progress c hc.meta_pos hc.cap_pos s.nextId (s.topic t) (K t) (h.topic t) m cp hlt
        omega
      simp only [step, Spec.after]
      cases cp with
      | true =>
        have := sim_read c s K h t _ mm hlog hcnt hinv
        exact ⟨_, this.1, hok, by rw [this.2, hlen, if_pos rfl]; rfl⟩
      | false =>
        -- `hcnt` and `hinv` fit `m := 0` as they are: `if false = true then _ else x` computes to `x`, and so do
        -- the `x - 0` and `x + 0` that `sim_read` asks for
        have := sim_read c s K h t _ 0 hlog hcnt hinv
        rw [Nat.add_zero, upd_self] at this
        exact ⟨_, this.1, hok, this.2⟩
  | count t => exact ⟨K, h, h.count t, rfl⟩

theorem runFrom_accepts (c : Cfg) (hc : CfgOK c) (ops : List AOp) (s : AState) (K : Topic → Nat) (h : SInv c s K) :
    accepts (specOf s K) (ops.zip (runFrom c s ops)) := by
  induction ops generalizing s K with
  | nil => trivial
  | cons op rest ih =>
    obtain ⟨K', h', hok, e⟩ := step_sim c hc s K h op
    exact (accepts_cons _ _ _ _).2 ⟨hok, e ▸ ih _ K' h'⟩

theorem runFrom_append (c : Cfg) (s : AState) (a b : List AOp) :
    runFrom c s (a ++ b) = runFrom c s a ++ runFrom c (a.foldl (fun s op => (step c s op).1) s) b := by
  induction a generalizing s with
  | nil => rfl
  | cons x r ih => simp [runFrom, ih]

theorem runFrom_length (c : Cfg) (s : AState) (a : List AOp) : (runFrom c s a).length = a.length := by
  induction a generalizing s with
  | nil => rfl
  | cons x r ih => simp [runFrom, ih]

/-- the refinement theorem of one process lifetime: whatever the operations, their sizes and their
results, the history is one of the FIFO specification -/
theorem run_accepts (c : Cfg) (hc : CfgOK c) (ops : List AOp) : accepts Spec.init (ops.zip (run c ops)) :=
  specOf_init ▸ runFrom_accepts c hc ops {} (fun _ => 0) (sinv_init c)

end WalrusVerif.AEng
