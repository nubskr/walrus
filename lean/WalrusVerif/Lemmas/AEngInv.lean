import WalrusVerif.Lemmas.AEngBasic
/-!
The per-topic invariant of the entry-level model: the cursor, in whichever of its encodings
(`(idx, off)` in the sealed chain, `(chain.length, 0)` + tail `(id, off)`), denotes one number `k`
= how many entries of the topic's log have been consumed.  (`TInv` does not mention the topic's
`count`; that it is `|log| - k` is `SInv.count`.)

`PosDen` says what a position in the sealed chain denotes, `TailDen` what the position in the tail
block denotes.  `TInv` is built and taken apart through them: `TInv.ofPosDen` / `TInv.posDen` while
the tail block has not been read from, `TInv.ofTail` / `TInv.tailDen` for a cursor in the tail block.
-/
namespace WalrusVerif.AEng
open WalrusVerif WalrusVerif.Eng

def chainEs (chain : List ABlk) : List Pay := chain.flatMap (·.es)

def tailEs (a : ATopic) : List Pay :=
  match a.writer with
  | some w => w.es
  | none => []

/-- the topic's log: every entry successfully appended, in order -/
def log (a : ATopic) : List Pay := chainEs a.chain ++ tailEs a

/-- entries in the chain blocks before index `i` -/
def before (chain : List ABlk) (i : Nat) : Nat := (chainEs (chain.take i)).length

structure TInv (c : Cfg) (nextId : Nat) (a : ATopic) (k : Nat) : Prop where
  idx_le : a.curIdx ≤ a.chain.length
  /-- `PosDen.inBlock` at the cursor -/
  sealedPos : ∀ b, a.chain[a.curIdx]? = some b →
    ∃ j, j ≤ b.es.length ∧ a.curOff = bytes c (b.es.take j) ∧ k = before a.chain a.curIdx + j
  tailOff0 : a.curIdx = a.chain.length → a.curOff = 0
  tailPos : a.curIdx = a.chain.length →
    match a.writer with
    | none => k = (chainEs a.chain).length
    | some w =>
      if a.tailId = w.id then
        ∃ j, j ≤ w.es.length ∧ a.tailOff = bytes c (w.es.take j) ∧ k = (chainEs a.chain).length + j
      else k = (chainEs a.chain).length
  /-- while the cursor is in the sealed chain, `tailId` is stale and must not name the writer's block:
  the test `tailId = b.id` of `sealInto` would otherwise overwrite the cursor at the next rotation -/
  sealedNotTail : a.curIdx < a.chain.length → ∀ w, a.writer = some w → a.tailId ≠ w.id
  /-- ids in use are below the counter, so that a fresh block's id differs from a stale `tailId`
  (`tinv_ensureWriter`, `tinv_sealInto`) -/
  tailIdLt : a.tailId < nextId
  writerIdLt : ∀ w, a.writer = some w → w.id < nextId
  /-- (says nothing: a topic without a writer but with sealed blocks is what a restart leaves behind) -/
  noWriterNoChain : a.writer = none → True
  k_le : k ≤ (log a).length

@[simp] theorem chainEs_nil : chainEs [] = [] := rfl
theorem chainEs_append (a b : List ABlk) : chainEs (a ++ b) = chainEs a ++ chainEs b := by
  simp [chainEs, List.flatMap_append]
@[simp] theorem chainEs_single (b : ABlk) : chainEs [b] = b.es := by simp [chainEs]

theorem before_append_le (chain : List ABlk) (x : ABlk) (i : Nat) (h : i ≤ chain.length) :
    before (chain ++ [x]) i = before chain i := by
  unfold before
  rw [List.take_append_of_le_length h]

theorem before_length (chain : List ABlk) : before chain chain.length = (chainEs chain).length := by
  simp [before]

theorem before_succ (chain : List ABlk) (i : Nat) (b : ABlk) (h : chain[i]? = some b) :
    before chain (i + 1) = before chain i + b.es.length := by
  obtain ⟨hi, rfl⟩ := List.getElem?_eq_some_iff.mp h
  rw [before, List.take_succ_eq_append_getElem hi, chainEs_append, List.length_append, chainEs_single, before]

theorem log_getElem_sealed (a : ATopic) (i j : Nat) (b : ABlk) (hb : a.chain[i]? = some b) (e : Pay)
    (he : b.es[j]? = some e) : (log a)[before a.chain i + j]? = some e := by
  obtain ⟨hi, rfl⟩ := List.getElem?_eq_some_iff.mp hb
  have hsplit : chainEs a.chain = chainEs (a.chain.take i) ++ (a.chain[i].es ++ chainEs (a.chain.drop (i + 1))) := by
    rw [← chainEs_single a.chain[i], ← chainEs_append, ← chainEs_append, List.singleton_append,
      List.getElem_cons_drop, List.take_append_drop]
  unfold log before
  rw [hsplit, List.append_assoc, List.getElem?_append_right (Nat.le_add_right _ _), Nat.add_sub_cancel_left,
    List.append_assoc, List.getElem?_append_left (getElem?_lt_length' _ _ _ he)]
  exact he

theorem log_getElem_tail (a : ATopic) (w : ABlk) (hw : a.writer = some w) (j : Nat) :
    (log a)[(chainEs a.chain).length + j]? = w.es[j]? := by
  unfold log tailEs
  rw [hw, List.getElem?_append_right (by omega)]
  simp

/-- position `(idx, off)` of the sealed chain denotes global entry index `g`: `off` is a boundary
of block `idx` and `g` is the index of the entry behind it; the end of the chain denotes the first
entry of the tail -/
structure PosDen (c : Cfg) (chain : List ABlk) (idx off g : Nat) : Prop where
  idx_le : idx ≤ chain.length
  inBlock : ∀ b, chain[idx]? = some b → ∃ j, j ≤ b.es.length ∧ off = bytes c (b.es.take j) ∧ g = before chain idx + j
  atEnd : idx = chain.length → g = (chainEs chain).length

theorem PosDen.inside {c : Cfg} {chain : List ABlk} {i : Nat} {b : ABlk} (hb : chain[i]? = some b) {j : Nat}
    (hj : j ≤ b.es.length) : PosDen c chain i (bytes c (b.es.take j)) (before chain i + j) := by
  have hi := getElem?_lt_length' _ _ _ hb
  exact ⟨Nat.le_of_lt hi, fun b' hb' => by cases hb.symm.trans hb'; exact ⟨j, hj, rfl, rfl⟩, fun he => by omega⟩

theorem PosDen.start (c : Cfg) {chain : List ABlk} {i : Nat} (hi : i ≤ chain.length) : PosDen c chain i 0 (before chain i) :=
  ⟨hi, fun _ _ => ⟨0, Nat.zero_le _, rfl, rfl⟩, fun he => he ▸ before_length chain⟩

theorem PosDen.start_succ (c : Cfg) {chain : List ABlk} {i : Nat} {b : ABlk} (hb : chain[i]? = some b) :
    PosDen c chain (i + 1) 0 (before chain i + b.es.length) :=
  before_succ chain i b hb ▸ PosDen.start c (getElem?_lt_length' _ _ _ hb)

theorem PosDen.next {c : Cfg} (hm : 0 < c.metaSz) {chain : List ABlk} {i off g : Nat} (h : PosDen c chain i off g) {b : ABlk}
    (hb : chain[i]? = some b) (hge : off ≥ b.used c) : PosDen c chain (i + 1) 0 g := by
  obtain ⟨j, hj, hoff, hg⟩ := h.inBlock b hb
  rw [hg, boundary_end c hm b.es j hj (hoff ▸ hge)]
  exact .start_succ c hb

theorem PosDen.append {c : Cfg} {chain : List ABlk} {i off g : Nat} (h : PosDen c chain i off g) (hi : i < chain.length)
    (x : ABlk) : PosDen c (chain ++ [x]) i off g := by
  refine ⟨by simp; omega, fun b hb => ?_, fun he => by simp at he; omega⟩
  rw [List.getElem?_append_left hi] at hb
  rw [before_append_le _ _ _ (Nat.le_of_lt hi)]
  exact h.inBlock b hb

variable {c : Cfg} {n : Nat} {a : ATopic} {k : Nat}

/-- as long as nothing has been read from the tail block, the invariant says that the cursor is a
position of the sealed chain -/
theorem TInv.ofPosDen (hp : PosDen c a.chain a.curIdx a.curOff k) (h0 : a.curIdx = a.chain.length → a.curOff = 0)
    (hu : ∀ w, a.writer = some w → a.tailId ≠ w.id) (ht : a.tailId < n) (hw : ∀ w, a.writer = some w → w.id < n)
    (hk : k ≤ (log a).length) : TInv c n a k := by
  refine ⟨hp.idx_le, hp.inBlock, h0, fun hi => ?_, fun _ => hu, ht, hw, fun _ => trivial, hk⟩
  cases hwr : a.writer with
  | none => exact hp.atEnd hi
  | some w => simp only [hu w hwr, if_false]; exact hp.atEnd hi

theorem TInv.posDen (h : TInv c n a k) (hu : ∀ w, a.writer = some w → a.tailId ≠ w.id) :
    PosDen c a.chain a.curIdx a.curOff k := by
  refine ⟨h.idx_le, h.sealedPos, fun hi => ?_⟩
  have := h.tailPos hi
  cases hwr : a.writer with
  | none => rwa [hwr] at this
  | some w => rw [hwr] at this; simpa only [hu w hwr, if_false] using this

theorem TInv.ofTail {w : ABlk} {j : Nat} (hi : a.curIdx = a.chain.length) (ho : a.curOff = 0) (hw : a.writer = some w)
    (hid : a.tailId = w.id) (hj : j ≤ w.es.length) (hoff : a.tailOff = bytes c (w.es.take j)) (hn : w.id < n) :
    TInv c n a ((chainEs a.chain).length + j) := by
  refine ⟨Nat.le_of_eq hi, fun b hb => ?_, fun _ => ho, fun _ => ?_, fun hl => by omega, hid ▸ hn, fun w' hw' => ?_,
    fun _ => trivial, ?_⟩
  · rw [hi, List.getElem?_eq_none (Nat.le_refl _)] at hb; cases hb
  · simp only [hw, hid, if_true]; exact ⟨j, hj, hoff, rfl⟩
  · cases hw.symm.trans hw'; exact hn
  · simp only [log, tailEs, hw, List.length_append]; omega

/-- the position from which the tail block is read (`tailOff` if `tailId` names the writer's block,
the block's start otherwise) denotes global entry index `g` -/
def TailDen (c : Cfg) (a : ATopic) (g : Nat) : Prop :=
  match a.writer with
  | none => g = (chainEs a.chain).length
  | some w => ∃ j, j ≤ w.es.length ∧ (if a.tailId = w.id then a.tailOff else 0) = bytes c (w.es.take j) ∧
      g = (chainEs a.chain).length + j

theorem TInv.tailDen (h : TInv c n a k) (hidx : a.curIdx = a.chain.length) : TailDen c a k := by
  have htp := h.tailPos hidx
  unfold TailDen
  cases hw : a.writer with
  | none => rwa [hw] at htp
  | some w =>
    rw [hw] at htp
    by_cases ht : a.tailId = w.id <;> simp only [ht, if_true, if_false] at htp ⊢
    · exact htp
    · exact ⟨0, Nat.zero_le _, by simp, by simpa using htp⟩

theorem TInv.tail (h : TInv c n a k) (hidx : a.curIdx = a.chain.length) {w : ABlk} (hw : a.writer = some w) :
    ∃ j, j ≤ w.es.length ∧ (if a.tailId = w.id then a.tailOff else 0) = bytes c (w.es.take j) ∧
      k = (chainEs a.chain).length + j := by
  have := h.tailDen hidx
  rwa [TailDen, hw] at this

theorem TailDen.unread (hu : ∀ w, a.writer = some w → a.tailId ≠ w.id) : TailDen c a (chainEs a.chain).length := by
  unfold TailDen
  cases hw : a.writer with
  | none => rfl
  | some w => exact ⟨0, Nat.zero_le _, by simp [hu w hw], rfl⟩

theorem TInv.idx_eq (h : TInv c n a k) (hb : a.chain[a.curIdx]? = none) : a.curIdx = a.chain.length :=
  Nat.le_antisymm h.idx_le (List.getElem?_eq_none_iff.mp hb)

theorem tinv_init (c : Cfg) (n : Nat) (hn : 0 < n) : TInv c n {} 0 :=
  TInv.ofPosDen (PosDen.start c (Nat.le_refl _)) (fun _ => rfl) (fun _ hw => nomatch hw) hn (fun _ hw => nomatch hw)
    (Nat.zero_le _)

theorem TInv.mono (h : TInv c n a k) {n' : Nat} (hn : n ≤ n') : TInv c n' a k :=
  { h with tailIdLt := Nat.lt_of_lt_of_le h.tailIdLt hn,
           writerIdLt := fun w hw => Nat.lt_of_lt_of_le (h.writerIdLt w hw) hn }

theorem TInv.count_irrel (h : TInv c n a k) (x : Nat) : TInv c n { a with count := x } k :=
  { h with }

end WalrusVerif.AEng
