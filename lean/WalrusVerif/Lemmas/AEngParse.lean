import WalrusVerif.Lemmas.AEngInv
/-! The batch-read parser on ranges that lie on entry boundaries of the topic's blocks. -/
namespace WalrusVerif.AEng
open WalrusVerif WalrusVerif.Eng

/-- where the parser's position fields point, as a global entry index `g` -/
def PosOK (c : Cfg) (a : ATopic) (s : APState) (g : Nat) : Prop :=
  if s.sawTail then
    ∃ w j, a.writer = some w ∧ s.finalTailId = w.id ∧ j ≤ w.es.length ∧
      s.finalTailOff = bytes c (w.es.take j) ∧ g = (chainEs a.chain).length + j
  else
    ∃ b j, a.chain[s.finalIdx]? = some b ∧ a.curIdx ≤ s.finalIdx ∧ j ≤ b.es.length ∧
      s.finalOff = bytes c (b.es.take j) ∧ g = before a.chain s.finalIdx + j

/-- the parser's state during a cursor read that began at consumed index `k0`: it holds the `parsed`
log entries from `k0` on, untrimmed (`trim` is nonzero only at the start of an offset-addressed read,
which this invariant does not cover); once it has taken an entry its position fields point behind
the last one taken (`PosOK`), before that they hold defaults and `finishBatch` does not commit them -/
structure PSInv (c : Cfg) (a : ATopic) (k0 : Nat) (s : APState) : Prop where
  entries : s.entries.reverse = (((log a).drop k0).take s.parsed).map (·, 0)
  trim0 : s.trim = 0
  len : s.entries.length = s.parsed
  inLog : k0 + s.parsed ≤ (log a).length
  pos : s.parsed > 0 → PosOK c a s (k0 + s.parsed)

/-- a planned range that starts on a boundary of a block of the topic; `base` is the global index
of the block's first entry, `j0` the index within the block of the entry at `r.start` -/
structure RangeOK (c : Cfg) (a : ATopic) (r : ARange) (base j0 : Nat) : Prop where
  j0_le : j0 ≤ r.es.length
  start_eq : r.start = bytes c (r.es.take j0)
  stop_le : r.stop ≤ bytes c r.es
  logAt : ∀ j e, r.es[j]? = some e → (log a)[base + j]? = some e
  /-- which block of the topic the range lies in; `a.curIdx ≤ r.chainIdx` is there for `tinv_commit`, which
  gets `sealedNotTail` of the committed position from it -/
  pos : if r.isTail then
          ∃ w, a.writer = some w ∧ r.blkId = w.id ∧ r.es = w.es ∧ base = (chainEs a.chain).length
        else
          ∃ b, a.chain[r.chainIdx]? = some b ∧ r.es = b.es ∧ base = before a.chain r.chainIdx ∧ a.curIdx ≤ r.chainIdx

/-- the parser's state after it took entry `x` of range `r`; `off` is where `x` ends in its block.  The recursive
call in the last branch of `parseRange` is on a state that is `s.push r _ x` by definition, so a fact proved about
`push` is accepted where the induction hypothesis asks for it, with no rewriting (`parseRange_spec`; `parseRange_mono`
and `parseRange_takes` in AEngProgress). -/
def APState.push (s : APState) (r : ARange) (off : Nat) (x : Pay) : APState :=
  let s1 : APState :=
    { s with entries := if s.trim = 0 ∨ s.trim < x.len then (x, s.trim) :: s.entries else s.entries,
             total := s.total + x.len, parsed := s.parsed + 1, trim := 0 }
  if r.isTail then { s1 with sawTail := true, finalTailId := r.blkId, finalTailOff := off }
  else { s1 with finalIdx := r.chainIdx, finalOff := off }

theorem APState.push_parsed (s : APState) (r : ARange) (off : Nat) (x : Pay) : (s.push r off x).parsed = s.parsed + 1 := by
  unfold APState.push; cases r.isTail <;> rfl

theorem PSInv.push {c : Cfg} {a : ATopic} {k0 : Nat} {s : APState} (hs : PSInv c a k0 s) {r : ARange} {base j0 : Nat}
    (hr : RangeOK c a r base j0) (hst : r.isTail = false → s.sawTail = false) {j : Nat} (hj : j < r.es.length)
    (hg : k0 + s.parsed = base + j) {off : Nat} (hoff : off = bytes c (r.es.take (j + 1))) :
    PSInv c a k0 (s.push r off r.es[j]) ∧ (r.isTail = false → (s.push r off r.es[j]).sawTail = false) := by
  have hlog : (log a)[k0 + s.parsed]? = some r.es[j] := hg ▸ hr.logAt j _ (List.getElem?_eq_getElem hj)
  have hklt : k0 + (s.parsed + 1) ≤ (log a).length := getElem?_lt_length' _ _ _ hlog
  have hg' : k0 + (s.parsed + 1) = base + (j + 1) := congrArg Nat.succ hg
  have hrev : ((r.es[j], 0) :: s.entries).reverse = (((log a).drop k0).take (s.parsed + 1)).map (·, 0) := by
    rw [List.reverse_cons, hs.entries, List.take_add_one, List.getElem?_drop, hlog]; simp
  have hpos := hr.pos
  unfold APState.push
  cases hT : r.isTail <;> simp only [hT, if_true, Bool.false_eq_true, if_false, hs.trim0, true_or] at hpos ⊢
  · obtain ⟨b, hb, hes, hbase, hcur⟩ := hpos
    refine ⟨⟨hrev, rfl, by simp [hs.len], hklt, fun _ => ?_⟩, fun _ => hst hT⟩
    unfold PosOK; simp only [hst hT, Bool.false_eq_true, if_false]
    exact ⟨b, j + 1, hb, hcur, hes ▸ hj, hes ▸ hoff, hbase ▸ hg'⟩
  · obtain ⟨w, hw, hid, hes, hbase⟩ := hpos
    refine ⟨⟨hrev, rfl, by simp [hs.len], hklt, fun _ => ?_⟩, nofun⟩
    unfold PosOK; simp only [if_true]
    exact ⟨w, j + 1, hw, hid, hes ▸ hj, hes ▸ hoff, hbase ▸ hg'⟩

/- Arithmetic of the parser's loop, about variables: at the call sites the numbers are `raw c e` and let-bound lengths,
which unification unfolds and `omega` would take for atoms. -/

theorem range_inside {start stop bo used : Nat} (hlt : bo < stop - start) (hs : stop ≤ used) : start + bo < used := by
  omega

theorem range_done {start stop bo used : Nat} (hge : ¬ bo < stop - start) (hcut : ¬ stop < used) : used ≤ start + bo := by
  omega

theorem header_fits {off metaSz len used : Nat} (h : off + (metaSz + len) ≤ used) : off + metaSz ≤ used :=
  Nat.le_trans (Nat.add_le_add_left (Nat.le_add_right _ _) _) h

theorem range_fuel {len bo fuel x : Nat} (hf : len < bo + (fuel + 1)) (hx : 0 < x) : len < bo + x + fuel := by
  omega

/-- the parser's inner loop over one good range: it keeps the invariant, and it ends because it
was told to stop, hit the cap, reached the end of a range that was cut short, or finished the block (the first three
grouped, as `parsePlan_nil_or_stopped` takes them).
`hst` and the second conjunct carry "no tail range so far" through the loop: `PosOK` branches on `s.sawTail`, so a
push from a sealed range (`PSInv.push`) has to know that the flag is still off; from one range to the next
`Good.cons`'s third hypothesis supplies it (`parsePlan_spec`). -/
theorem parseRange_spec (c : Cfg) (hm : 0 < c.metaSz) (a : ATopic) (k0 maxB : Nat) (r : ARange) (base j0 : Nat)
    (hr : RangeOK c a r base j0) (fuel bo : Nat) (s : APState) (j : Nat) (hs : PSInv c a k0 s)
    (hst : r.isTail = false → s.sawTail = false) (hjl : j ≤ r.es.length) (hbo : r.start + bo = bytes c (r.es.take j))
    (hg : k0 + s.parsed = base + j) (hf : r.stop - r.start < bo + fuel) :
    PSInv c a k0 (parseRange c maxB r fuel bo s) ∧
      (r.isTail = false → (parseRange c maxB r fuel bo s).sawTail = false) ∧
      (((parseRange c maxB r fuel bo s).stop = true ∨ (parseRange c maxB r fuel bo s).entries.length ≥ c.cap ∨
          r.stop < bytes c r.es) ∨ k0 + (parseRange c maxB r fuel bo s).parsed = base + r.es.length) := by
  -- the loop leaves the range only at its end: either the range was cut short, or the block is finished
  have hend : ∀ {bo : Nat} {s : APState} {j : Nat}, j ≤ r.es.length → r.start + bo = bytes c (r.es.take j) →
      k0 + s.parsed = base + j → ¬ bo < r.stop - r.start →
      (s.stop = true ∨ s.entries.length ≥ c.cap ∨ r.stop < bytes c r.es) ∨ k0 + s.parsed = base + r.es.length := by
    intro bo s j hjl hbo hg hge
    by_cases hcut : r.stop < bytes c r.es
    · exact .inl (.inr (.inr hcut))
    · exact .inr (boundary_end c hm r.es j hjl (hbo ▸ range_done hge hcut) ▸ hg)
  -- branches of `parseRange`: 1 out of fuel; 2 cap reached; 3, 5, 6 it stops (header, entry, budget does not fit);
  -- 4 no entry at a boundary; 7 entry `x` taken (`hlt : bo < len`, `hx : entryAt .. = some x`); 8 end of the range
  fun_induction parseRange c maxB r fuel bo s generalizing j with
  | case1 => exact ⟨hs, hst, hend hjl hbo hg (Nat.not_lt.mpr (Nat.le_of_lt hf))⟩
  | case2 _ _ s _ _ hcap => exact ⟨hs, hst, .inl (.inr (.inl hcap))⟩
  | case3 | case5 | case6 => exact ⟨{ hs with }, hst, .inl (.inl rfl)⟩
  | case4 _ bo s len hlt _ _ hnone =>
    obtain ⟨_, hent, _⟩ := entryAt_boundary_lt c hm r.es j _ hbo (range_inside hlt hr.stop_le)
    cases hnone.symm.trans hent
  | case7 _ bo s _ hlt _ _ x hx _ _ _ _ _ _ _ _ _ ih =>
    obtain ⟨hj, hent, hnext⟩ := entryAt_boundary_lt c hm r.es j _ hbo (range_inside hlt hr.stop_le)
    cases hx.symm.trans hent
    obtain ⟨hinv, hsaw⟩ := hs.push hr hst hj hg hnext
    exact ih (j + 1) hinv hsaw hj (Nat.add_assoc .. ▸ hnext)
      ((s.push_parsed r _ r.es[j]).symm ▸ congrArg Nat.succ hg) (range_fuel hf (raw_pos c hm _))
  | case8 => exact ⟨hs, hst, hend hjl hbo hg ‹_›⟩

/-- a plan whose ranges continue each other on entry boundaries, starting at global entry index
`g`: every range but the last reaches the end of its block, and only the last may be the tail.
It is what the parser needs of a plan (`parsePlan_spec`) and the planner delivers (`statefulPlan_good`). -/
inductive Good (c : Cfg) (a : ATopic) : Nat → List ARange → Prop
  | nil (g : Nat) : Good c a g []
  | cons (g : Nat) (r : ARange) (rest : List ARange) (base j0 : Nat) :
      RangeOK c a r base j0 → g = base + j0 →
      (rest ≠ [] → r.stop = bytes c r.es ∧ r.isTail = false) →
      Good c a (base + r.es.length) rest → Good c a g (r :: rest)

theorem parsePlan_nil_or_stopped (c : Cfg) (maxB : Nat) (rest : List ARange) (s : APState)
    (h : s.stop = true ∨ s.entries.length ≥ c.cap ∨ rest = []) : parsePlan c maxB rest s = s := by
  fun_cases parsePlan c maxB rest s with
  | case1 | case2 => rfl
  | case3 => exact absurd (h.imp_right (·.resolve_right nofun)) ‹_›

theorem parsePlan_spec (c : Cfg) (hm : 0 < c.metaSz) (a : ATopic) (k0 maxB : Nat) (plan : List ARange) (g : Nat)
    (s : APState) (hg : Good c a g plan) (hs : PSInv c a k0 s) (hst : s.sawTail = false) (hk : k0 + s.parsed = g) :
    PSInv c a k0 (parsePlan c maxB plan s) := by
  fun_induction parsePlan c maxB plan s generalizing g with
  | case1 | case2 => exact hs
  | case3 r rest s _ ih =>
    obtain _ | ⟨_, _, _, base, j0, hr, hgeq, hfull, hrest⟩ := hg
    obtain ⟨hinv, hsaw, hend⟩ := parseRange_spec c hm a k0 maxB r base j0 hr (r.stop - r.start + 1) 0 s j0 hs
      (fun _ => hst) hr.j0_le hr.start_eq (hk.trans hgeq) ((Nat.zero_add _).symm ▸ Nat.lt_succ_self _)
    rcases hend with he | he
    · -- the parser has stopped, or the range was cut short and is the last one
      have hcut : r.stop < bytes c r.es → rest = [] := fun h =>
        Classical.byContradiction fun hne => absurd (hfull hne).1 (Nat.ne_of_lt h)
      rw [parsePlan_nil_or_stopped c maxB rest _ (he.imp_right (·.imp_right hcut))]; exact hinv
    · rcases rest with _ | ⟨x, xs⟩
      · exact hinv
      · exact ih _ hrest hinv (hsaw (hfull (by simp)).2) he

end WalrusVerif.AEng
