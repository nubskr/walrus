import WalrusVerif.Model.Meta
import WalrusVerif.Lemmas.AMapLemmas
/-! The metadata state machine (Model/Meta.lean), for C18: every command keeps `TopicInv` of every topic (`inv_run`) and
only extends a topic's sealed history (`sealed_stable_run`). -/
namespace WalrusVerif.Meta
open WalrusVerif

/-- What C18 asks of one topic, and with it the `u64` range of the two counters (`cur_lt`, `offset_lt`), which C18 does
not ask: `C18_counters_in_range`. -/
structure TopicInv (t : TopicState) : Prop where
  cur_pos : 1 ≤ t.currentSegment
  cur_lt : t.currentSegment < U64
  leaders_keys : ∀ k, (t.segmentLeaders.get? k).isSome ↔ (1 ≤ k ∧ k ≤ t.currentSegment)
  sealed_keys : ∀ k, (t.sealedSegments.get? k).isSome ↔ (1 ≤ k ∧ k < t.currentSegment)
  open_leader : t.segmentLeaders.get? t.currentSegment = some t.leaderNode
  offset_sum : t.lastSealedEntryOffset = sumSealed t.sealedSegments (t.currentSegment - 1)
  offset_lt : t.lastSealedEntryOffset < U64

def Inv (s : ClusterState) : Prop := ∀ name t, s.topics.get? name = some t → TopicInv t

theorem inv_init : Inv ClusterState.init := by
  intro name t h; simp [ClusterState.init] at h

/-- The topic that `createTopic` enters. -/
def TopicState.fresh (leader : Nat) : TopicState :=
  { currentSegment := 1, leaderNode := leader, lastSealedEntryOffset := 0,
    sealedSegments := AMap.empty, segmentLeaders := AMap.insert AMap.empty 1 leader }

/-- What `rolloverTopic` makes of `t` when neither counter overflows. -/
def TopicState.roll (t : TopicState) (newLeader cnt : Nat) : TopicState :=
  { currentSegment := t.currentSegment + 1, leaderNode := newLeader,
    lastSealedEntryOffset := t.lastSealedEntryOffset + cnt,
    sealedSegments := t.sealedSegments.insert t.currentSegment cnt,
    segmentLeaders := (t.segmentLeaders.insert t.currentSegment t.leaderNode).insert (t.currentSegment + 1) newLeader }

theorem checkedAdd_some {a b c : Nat} (h : checkedAdd a b = some c) : a + b < U64 ∧ c = a + b := by
  unfold checkedAdd at h
  split at h
  · exact ⟨‹_›, (Option.some.inj h).symm⟩
  · cases h

theorem applyCmd_get? (s : ClusterState) (c : Cmd) (name : Name) :
    (applyCmd s c).1.topics.get? name = s.topics.get? name ∨
    (s.topics.get? name = none ∧ ∃ l, (applyCmd s c).1.topics.get? name = some (.fresh l)) ∨
    (∃ t nl cnt, s.topics.get? name = some t ∧ t.currentSegment + 1 < U64 ∧
      t.lastSealedEntryOffset + cnt < U64 ∧ (applyCmd s c).1.topics.get? name = some (t.roll nl cnt)) := by
  fun_cases applyCmd s c with
  -- arms, by reply: 1 exists, 2 created, 3 not found, 4 rolled, 5 overflow, 6 `upsertNode`
  | case2 n l hc =>
    simp only [AMap.get?_insert]
    split
    · subst n; exact .inr (.inl ⟨by simpa [AMap.contains] using hc, l, rfl⟩)
    · exact .inl rfl
  -- `off`, `next` in match order, their equations `hnext`, `hoff` in the opposite order
  | case4 n nl cnt t ht off next hnext hoff =>
    obtain ⟨b1, rfl⟩ := checkedAdd_some hnext
    obtain ⟨b2, rfl⟩ := checkedAdd_some hoff
    simp only [AMap.get?_insert]
    split
    · subst n; exact .inr (.inr ⟨t, nl, cnt, ht, b1, b2, rfl⟩)
    · exact .inl rfl
  | _ => exact .inl rfl

/-- not for C18: `Plane.LeaseInv` rests on it (PlaneInv), and it keeps the hypothesis `hd` of `C20_order_irrelevant` -/
theorem nodup_keys_applyCmd (s : ClusterState) (c : Cmd) (h : s.topics.keys.Nodup) : (applyCmd s c).1.topics.keys.Nodup := by
  fun_cases applyCmd s c with
  -- a topic is created or rolled over, as in `applyCmd_get?`
  | case2 | case4 => exact AMap.nodup_keys_insert _ _ _ h
  | case1 | case3 | case5 | case6 => exact h

theorem sumSealed_insert_above (m : AMap Nat Nat) (c v n : Nat) (h : n < c) :
    sumSealed (m.insert c v) n = sumSealed m n := by
  induction n with
  | zero => rfl
  | succ n ih =>
    have : c ≠ n + 1 := by omega
    simp [sumSealed, ih (by omega), AMap.get?_insert_ne, this]

theorem topicInv_fresh (leader : Nat) : TopicInv (.fresh leader) where
  cur_pos := Nat.le_refl 1
  cur_lt := (by decide : 1 < U64)
  leaders_keys k := by simp [TopicState.fresh, AMap.isSome_get?_insert]; omega
  sealed_keys k := by simp [TopicState.fresh]; omega
  open_leader := AMap.get?_insert_self ..
  offset_sum := rfl
  offset_lt := (by decide : 0 < U64)

theorem topicInv_roll {t : TopicState} (ht : TopicInv t) (newLeader cnt : Nat)
    (hnext : t.currentSegment + 1 < U64) (hoff : t.lastSealedEntryOffset + cnt < U64) :
    TopicInv (t.roll newLeader cnt) where
  cur_pos := Nat.le_add_left 1 _
  cur_lt := hnext
  leaders_keys k := by
    have := ht.cur_pos
    simp only [TopicState.roll, AMap.isSome_get?_insert, ht.leaders_keys]; omega
  sealed_keys k := by
    have := ht.cur_pos
    simp only [TopicState.roll, AMap.isSome_get?_insert, ht.sealed_keys]; omega
  open_leader := AMap.get?_insert_self ..
  offset_sum := by
    show t.lastSealedEntryOffset + cnt = sumSealed (t.sealedSegments.insert t.currentSegment cnt) t.currentSegment
    obtain ⟨n, hn⟩ : ∃ n, t.currentSegment = n + 1 := ⟨t.currentSegment - 1, by have := ht.cur_pos; omega⟩
    rw [hn, sumSealed, sumSealed_insert_above _ _ _ _ (Nat.lt_succ_self n), AMap.get?_insert_self, ht.offset_sum, hn]
    rfl
  offset_lt := hoff

theorem inv_step (s : ClusterState) (c : Cmd) (h : Inv s) : Inv (applyCmd s c).1 := by
  intro name t' h'
  obtain e | ⟨_, l, e⟩ | ⟨t, nl, cnt, ht, b1, b2, e⟩ := applyCmd_get? s c name
  · exact h name t' (e ▸ h')
  · cases e.symm.trans h'; exact topicInv_fresh l
  · cases e.symm.trans h'; exact topicInv_roll (h name t ht) nl cnt b1 b2

theorem inv_run (s : ClusterState) (cs : List Cmd) (h : Inv s) : Inv (run s cs) :=
  List.foldlRecOn cs _ h fun s hs c _ => inv_step s c hs

/-- `t'` has at least the segments of `t` and agrees with `t` on everything sealed in `t` -/
def Extends (t t' : TopicState) : Prop :=
  t.currentSegment ≤ t'.currentSegment ∧
    ∀ k, k < t.currentSegment →
      t'.sealedSegments.get? k = t.sealedSegments.get? k ∧
      t'.segmentLeaders.get? k = t.segmentLeaders.get? k

theorem Extends.refl (t : TopicState) : Extends t t := ⟨Nat.le_refl _, fun _ _ => ⟨rfl, rfl⟩⟩

theorem Extends.trans {t t' t'' : TopicState} (h : Extends t t') (h' : Extends t' t'') : Extends t t'' :=
  ⟨Nat.le_trans h.1 h'.1, fun k hk =>
    have a := h.2 k hk
    have b := h'.2 k (Nat.lt_of_lt_of_le hk h.1)
    ⟨b.1.trans a.1, b.2.trans a.2⟩⟩

theorem extends_roll (t : TopicState) (newLeader cnt : Nat) : Extends t (t.roll newLeader cnt) := by
  refine ⟨Nat.le_succ _, fun k hk => ?_⟩
  have h1 : t.currentSegment ≠ k := by omega
  have h2 : t.currentSegment + 1 ≠ k := by omega
  simp [TopicState.roll, AMap.get?_insert_ne, h1, h2]

theorem sealed_stable_step (s : ClusterState) (c : Cmd) (name : Name) (t : TopicState)
    (hg : s.topics.get? name = some t) :
    ∃ t', (applyCmd s c).1.topics.get? name = some t' ∧ Extends t t' := by
  obtain e | ⟨e, _⟩ | ⟨t0, nl, cnt, ht, _, _, e⟩ := applyCmd_get? s c name
  · exact ⟨t, e.trans hg, .refl t⟩
  · cases e.symm.trans hg
  · cases ht.symm.trans hg; exact ⟨_, e, extends_roll t nl cnt⟩

theorem sealed_stable_run (s : ClusterState) (cs : List Cmd) (name : Name) (t : TopicState)
    (hg : s.topics.get? name = some t) :
    ∃ t', (run s cs).topics.get? name = some t' ∧ Extends t t' :=
  cs.foldlRecOn (motive := fun s' => ∃ t', s'.topics.get? name = some t' ∧ Extends t t') _ ⟨t, hg, .refl t⟩
    fun s' ⟨t1, h1, e1⟩ c _ => (sealed_stable_step s' c name t1 h1).imp fun _ h => ⟨h.1, e1.trans h.2⟩

end WalrusVerif.Meta
