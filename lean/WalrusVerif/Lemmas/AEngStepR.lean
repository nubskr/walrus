import WalrusVerif.Lemmas.AEngStep
/-! Clean restarts: a restart keeps the per-topic invariant, the log, the consumed index and the count (`reopen_sim`), so
the refinement induction goes through histories that contain restart events (`runFromR_accepts`). -/
namespace WalrusVerif.AEng
open WalrusVerif WalrusVerif.Eng

theorem get?_mapVals {κ ν : Type} [DecidableEq κ] (f : ν → ν) (m : AMap κ ν) (k : κ) :
    (mapVals f m).get? k = (m.get? k).map f := by
  fun_induction AMap.get? m k <;> simp_all [mapVals, AMap.get?]

theorem reopenTopic_default (c : Cfg) : reopenTopic c {} = {} := rfl

theorem topic_reopen (c : Cfg) (s : AState) (t : Topic) : (reopen c s).topic t = reopenTopic c (s.topic t) := by
  unfold reopen AState.topic
  simp only [get?_mapVals]
  cases s.topics.get? t with
  | none => simp [reopenTopic_default]
  | some a => simp

theorem tinv_reopenTopic (c : Cfg) (n : Nat) (a : ATopic) (k : Nat) (h : TInv c n a k) :
    TInv c n (reopenTopic c a) k ∧ log (reopenTopic c a) = log a ∧ (reopenTopic c a).count = a.count := by
  unfold reopenTopic
  cases hw : a.writer with
  | none => exact ⟨h, rfl, rfl⟩
  | some w =>
    exact ⟨tinv_sealInto h hw none (Nat.le_refl _) nofun, (List.append_nil _).trans (chainEs_sealInto c hw),
      (sealInto_fields c a w).2.2⟩

/-- a restart is no step of the specification -/
theorem reopen_sim (c : Cfg) (s : AState) (K : Topic → Nat) (h : SInv c s K) :
    SInv c (reopen c s) K ∧ specOf (reopen c s) K = specOf s K := by
  have ht := fun t => topic_reopen c s t ▸ tinv_reopenTopic c s.nextId _ _ (h.topic t)
  exact ⟨⟨fun t => (ht t).1, fun t => by rw [(ht t).2.2, (ht t).2.1]; exact h.count t⟩,
    congrArg (Spec.mk · K) (funext fun t => (ht t).2.1)⟩

theorem runFromR_accepts (c : Cfg) (hc : CfgOK c) (ops : List ROp) (s : AState) (K : Topic → Nat) (h : SInv c s K) :
    acceptsR (specOf s K) (ops.zip (runFromR c s ops)) := by
  induction ops generalizing s K with
  | nil => trivial
  | cons op rest ih =>
    cases op with
    | restart =>
      obtain ⟨h', e⟩ := reopen_sim c s K h
      exact acceptsR_cons_restart _ _ (e ▸ ih _ K h')
    | op op =>
      obtain ⟨K', h', hok, e⟩ := step_sim c hc s K h op
      exact acceptsR_cons_op _ _ _ _ hok (e ▸ ih _ K' h')

theorem runR_accepts (c : Cfg) (hc : CfgOK c) (ops : List ROp) : acceptsR Spec.init (ops.zip (runR c ops)) :=
  specOf_init ▸ runFromR_accepts c hc ops {} (fun _ => 0) (sinv_init c)

theorem runFromR_append (c : Cfg) (s : AState) (a b : List ROp) :
    runFromR c s (a ++ b) = runFromR c s a ++ runFromR c (a.foldl (fun s op => (stepR c s op).1) s) b := by
  induction a generalizing s with
  | nil => rfl
  | cons x r ih => simp [runFromR, ih]

theorem runFromR_length (c : Cfg) (s : AState) (a : List ROp) : (runFromR c s a).length = a.length := by
  induction a generalizing s with
  | nil => rfl
  | cons x r ih => simp [runFromR, ih]

end WalrusVerif.AEng
