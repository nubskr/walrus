import WalrusVerif.Model.Reader
/-! Storage-level batch read.  Properties of its parser that hold for *any* plan, disk content and state; without
checkpoint it returns the `Proc` it was given (`batchRead_peek_proc`; the `Inst` comes back hydrated). -/
namespace WalrusVerif.Eng
open WalrusVerif

def sumLens (l : List (Pay × Nat)) : Nat := (l.map fun e => e.1.len).sum

/-- payload bytes actually returned (after the front trim) -/
def sumReturned (l : List (Pay × Nat)) : Nat := (l.map fun e => e.1.len - e.2).sum

theorem sumReturned_le (l : List (Pay × Nat)) : sumReturned l ≤ sumLens l := by
  induction l with
  | nil => simp [sumReturned, sumLens]
  | cons a r ih =>
    simp only [sumReturned, sumLens, List.map_cons, List.sum_cons] at ih ⊢
    omega

/-- `total` counts every entry parsed, also one that the front trim drops from `entries` (`keep` in `parseRange`): it
bounds the bytes of `entries` from above, and it is `total` that the parser's budget test reads; the first entry is
exempt from the budget (`budget`, second disjunct) -/
structure PInv (cap maxB : Nat) (s : PState) : Prop where
  cap : s.entries.length ≤ cap
  sum : sumLens s.entries ≤ s.total
  budget : s.total ≤ maxB ∨ s.entries.length ≤ 1

theorem parseRange_inv (c : Cfg) (files : List FileSt) (maxB : Nat) (r : RPlan) (fuel bo : Nat)
    (s : PState) (h : PInv c.cap maxB s) : PInv c.cap maxB (parseRange c files maxB r fuel bo s) := by
  fun_induction parseRange c files maxB r fuel bo s with
  | case7 fuel bo s len _ hcap _ x _ consumed _ nextTotal hb keep entries inBlock s1 s2 ih =>
    -- one more entry `x`: the cap had room (`hcap`), and the budget is exceeded only by a first entry (`hb`); `s1` is
    -- the state with `x` in it, `s2` has the final position as well
    apply ih
    have hlen : s.entries.length < c.cap := by omega
    have hb' : s.total + x.pay.len ≤ maxB ∨ s.entries = [] := by
      by_cases he : s.entries = []
      · exact .inr he
      · exact .inl (Nat.le_of_not_gt fun hgt => hb ⟨hgt, by simp [he]⟩)
    have h1 : PInv c.cap maxB s1 := by
      have hsum := h.sum
      simp only [s1, entries]
      split
      · refine ⟨by simp only [List.length_cons]; omega, ?_, ?_⟩
        · simp only [sumLens, List.map_cons, List.sum_cons] at hsum ⊢; omega
        · rcases hb' with hb' | hb'
          · exact .inl hb'
          · exact .inr (by simp [hb'])
      · exact ⟨h.cap, by simp only [nextTotal]; omega, hb'.elim .inl fun e => .inr (by simp [e])⟩
    simp only [s2]
    split <;> exact { h1 with }
  -- the parser stops (no room for a header, an entry that leaves the range, the budget): only `stop` is set
  | case3 | case5 | case6 => exact { h with }
  | _ => exact h

theorem parsePlan_inv (c : Cfg) (files : List FileSt) (maxB : Nat) (plan : List RPlan) (s : PState)
    (h : PInv c.cap maxB s) : PInv c.cap maxB (parsePlan c files maxB plan s) := by
  fun_induction parsePlan c files maxB plan s with
  | case1 | case2 => exact h
  | case3 => rename_i ih; exact ih (parseRange_inv _ _ _ _ _ _ _ h)

/-- what the parser's result list satisfies, in the words of C03 -/
theorem parsePlan_result (c : Cfg) (files : List FileSt) (maxB trim : Nat) (plan : List RPlan) :
    let es := (parsePlan c files maxB plan { trim := trim }).entries.reverse
    es.length ≤ c.cap ∧ (sumReturned es ≤ maxB ∨ es.length ≤ 1) := by
  intro es
  have h := parsePlan_inv c files maxB plan { trim := trim } ⟨by simp, by simp [sumLens], .inr (by simp)⟩
  refine ⟨by simpa [es] using h.cap, ?_⟩
  rcases h.budget with hb | hb
  · left
    have h1 : sumReturned es ≤ sumLens es := sumReturned_le es
    have h2 : sumLens es = sumLens (parsePlan c files maxB plan { trim := trim }).entries := by
      simp [es, sumLens, List.sum_reverse]
    have := h.sum
    omega
  · right; simpa [es] using hb

theorem planAdd_trk (blk : Blk) (s : PlanSt) (stop : Nat) : (planAdd blk s stop).trk = s.trk := by
  unfold planAdd; split <;> rfl

theorem planLoop_trk_unmarked (c : Cfg) (files : List FileSt) (chain : List Blk) (maxB : Nat) (stateless : Bool)
    (fuel : Nat) (s : PlanSt) : (planLoop c files chain maxB false stateless fuel s).trk = s.trk := by
  fun_induction planLoop c files chain maxB false stateless fuel s with
  -- 3 steps over an exhausted block, without the mark; 4 and 5 plan a range (`planAdd`) and stop, resp. go on
  | case3 => assumption
  | case4 => exact planAdd_trk ..
  | case5 => rename_i ih; exact ih.trans (planAdd_trk ..)
  | _ => rfl

theorem batchRead_peek_proc (c : Cfg) (p : Proc) (i : Inst) (t : Topic) (m : Nat) (start : Option Nat) :
    (batchRead c p i t m false start).1 = p := by
  have : (statefulPlan c p i t m false).p = p := by
    unfold statefulPlan
    simp only [planLoop_trk_unmarked]
  fun_cases batchRead c p i t m false start <;> first | exact this | rfl

end WalrusVerif.Eng
