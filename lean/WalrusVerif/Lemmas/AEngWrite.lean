import WalrusVerif.Lemmas.AEngInv
/-! Appends of the entry-level model extend the log and keep the cursor's meaning. -/
namespace WalrusVerif.AEng
open WalrusVerif WalrusVerif.Eng

/-- what an append of the entries `ps` to topic `a` has to do; `r` is what it returned -/
structure Appends (c : Cfg) (n : Nat) (a : ATopic) (k : Nat) (ps : List Pay) (r : Nat × ATopic × Option ErrKind) :
    Prop where
  inv : TInv c r.1 r.2.1 k
  id_le : n ≤ r.1
  count : r.2.1.count = a.count
  ok : r.2.2 = none → log r.2.1 = log a ++ ps
  /-- only the log is kept: an append that fails may have sealed the active block and switched to a new one
  (`writeCore`, rotation with `long`) -/
  err : r.2.2 ≠ none → log r.2.1 = log a

variable {c : Cfg} {n : Nat} {a : ATopic} {k : Nat}

theorem Appends.rejected (h : TInv c n a k) (ps : List Pay) (e : ErrKind) : Appends c n a k ps (n, a, some e) :=
  ⟨h, Nat.le_refl _, rfl, nofun, fun _ => rfl⟩

theorem tinv_ensureWriter (c : Cfg) (n : Nat) (a : ATopic) (k : Nat) (h : TInv c n a k) :
    let r := ensureWriter c n a
    TInv c r.1 r.2.1 k ∧ n ≤ r.1 ∧ r.2.1.writer = some r.2.2 ∧ log r.2.1 = log a ∧ r.2.1.count = a.count := by
  unfold ensureWriter
  cases hw : a.writer with
  | some w => exact ⟨h, Nat.le_refl _, hw, rfl, rfl⟩
  | none =>
    have hlog : log { a with writer := some ⟨n, c.blockSize, []⟩ } = log a := by simp [log, tailEs, hw]
    have hne := Nat.ne_of_lt h.tailIdLt
    refine ⟨TInv.ofPosDen (h.posDen fun w hw' => nomatch hw.symm.trans hw') h.tailOff0 ?_ (Nat.lt_succ_of_lt h.tailIdLt) ?_
      (hlog ▸ h.k_le), Nat.le_succ _, rfl, hlog, rfl⟩
    · intro w hw'; cases hw'; exact hne
    · intro w hw'; cases hw'; exact Nat.lt_succ_self _

/-- an append that does what it has to on a topic with a writer does so on any topic, once
`get_or_create_writer` has run -/
theorem Appends.ensured (h : TInv c n a k) {ps : List Pay} (f : Nat → ATopic → ABlk → Nat × ATopic × Option ErrKind)
    (hf : ∀ {n' a' w}, TInv c n' a' k → a'.writer = some w → Appends c n' a' k ps (f n' a' w)) :
    Appends c n a k ps (f (ensureWriter c n a).1 (ensureWriter c n a).2.1 (ensureWriter c n a).2.2) := by
  obtain ⟨hi, hn, hw, hl, hc⟩ := tinv_ensureWriter c n a k h
  have r := hf hi hw
  exact ⟨r.inv, Nat.le_trans hn r.id_le, r.count.trans hc, fun e => hl ▸ r.ok e, fun e => hl ▸ r.err e⟩

theorem tinv_append_tail (h : TInv c n a k) {w : ABlk} (hw : a.writer = some w) (ps : List Pay) :
    TInv c n { a with writer := some { w with es := w.es ++ ps } } k ∧
      log { a with writer := some { w with es := w.es ++ ps } } = log a ++ ps := by
  have hlog : log { a with writer := some { w with es := w.es ++ ps } } = log a ++ ps := by
    simp [log, tailEs, hw]
  refine ⟨?_, hlog⟩
  by_cases ht : a.tailId = w.id
  · -- the cursor is in the tail block, at a boundary that stays where it is
    have hidx := Nat.le_antisymm h.idx_le (Nat.le_of_not_lt fun hlt => h.sealedNotTail hlt w hw ht)
    obtain ⟨j, hj, ho, hk⟩ := h.tail hidx hw
    rw [if_pos ht] at ho
    exact hk ▸ TInv.ofTail hidx (h.tailOff0 hidx) rfl ht (Nat.le_trans hj (by simp))
      (by rw [List.take_append_of_le_length hj]; exact ho) (h.writerIdLt w hw)
  · exact TInv.ofPosDen (h.posDen fun w' hw' => by cases hw.symm.trans hw'; exact ht) h.tailOff0
      (fun w' hw' => by cases hw'; exact ht) h.tailIdLt (fun w' hw' => by cases hw'; exact h.writerIdLt w hw)
      (hlog ▸ Nat.le_trans h.k_le (by simp))

theorem sealInto_fields (c : Cfg) (a : ATopic) (w : ABlk) :
    (sealInto c a w).chain = a.chain ++ [w] ∧ (sealInto c a w).tailId = a.tailId ∧ (sealInto c a w).count = a.count := by
  unfold sealInto; split <;> exact ⟨rfl, rfl, rfl⟩

/-- `append_block_to_chain` leaves the cursor where it was, or, when it stood in the block that is
being sealed, turns it into the same position of that block as a member of the chain -/
theorem sealInto_cursor (h : TInv c n a k) {w : ABlk} (hw : a.writer = some w) :
    PosDen c (a.chain ++ [w]) (sealInto c a w).curIdx (sealInto c a w).curOff k ∧
      (sealInto c a w).curIdx ≤ a.chain.length := by
  rcases Nat.lt_or_ge a.curIdx a.chain.length with hlt | hge
  · have hne := h.sealedNotTail hlt w hw
    simp only [sealInto, hne, if_false]
    exact ⟨(h.posDen (h.sealedNotTail hlt)).append hlt w, Nat.le_of_lt hlt⟩
  · have hidx := Nat.le_antisymm h.idx_le hge
    obtain ⟨j, hj, ho, hk⟩ := h.tail hidx hw
    have hb : (a.chain ++ [w])[a.chain.length]? = some w := by simp
    have hp := PosDen.inside (c := c) hb hj
    rw [before_append_le _ _ _ (Nat.le_refl _), before_length, ← hk] at hp
    unfold sealInto
    split
    · rename_i ht
      rw [if_pos ht] at ho
      simp only [List.length_append, List.length_singleton, Nat.add_sub_cancel]
      rw [ho, show min _ (w.used c) = _ from Nat.min_eq_left (bytes_take_le c w.es j)]
      exact ⟨hp, Nat.le_refl _⟩
    · rename_i ht
      rw [if_neg ht] at ho
      simp only [hidx, h.tailOff0 hidx, ho]
      exact ⟨hp, Nat.le_refl _⟩

theorem chainEs_sealInto (c : Cfg) {a : ATopic} {w : ABlk} (hw : a.writer = some w) :
    chainEs (sealInto c a w).chain = log a := by
  simp [log, tailEs, hw, (sealInto_fields c a w).1, chainEs_append]

/-- sealing the active block `w` and switching to a block `wr` with a fresh id, or to none (restart) -/
theorem tinv_sealInto (h : TInv c n a k) {w : ABlk} (hw : a.writer = some w) (wr : Option ABlk) {n' : Nat} (hn : n ≤ n')
    (hwr : ∀ nb, wr = some nb → n ≤ nb.id ∧ nb.id < n') : TInv c n' { sealInto c a w with writer := wr } k := by
  obtain ⟨hp, hle⟩ := sealInto_cursor h hw
  obtain ⟨hc, ht, _⟩ := sealInto_fields c a w
  have hlt : (sealInto c a w).curIdx < (sealInto c a w).chain.length := by rw [hc]; simp; omega
  refine TInv.ofPosDen (hc ▸ hp) (fun he => absurd he (Nat.ne_of_lt hlt)) (fun nb hnb => ?_)
    (ht ▸ Nat.lt_of_lt_of_le h.tailIdLt hn) (fun nb hnb => (hwr nb hnb).2) ?_
  · exact ht ▸ Nat.ne_of_lt (Nat.lt_of_lt_of_le h.tailIdLt (hwr nb hnb).1)
  · show k ≤ (chainEs (sealInto c a w).chain ++ _).length
    rw [chainEs_sealInto c hw, List.length_append]
    exact Nat.le_trans h.k_le (Nat.le_add_right _ _)

theorem tinv_seal_new (h : TInv c n a k) {w : ABlk} (hw : a.writer = some w) (nb : ABlk) (hid : nb.id = n) :
    TInv c (n + 1) { sealInto c a w with writer := some nb } k ∧
      log { sealInto c a w with writer := some nb } = log a ++ nb.es ∧ (sealInto c a w).count = a.count :=
  ⟨tinv_sealInto h hw (some nb) (Nat.le_succ n) fun _ e => by cases e; omega,
    congrArg (· ++ nb.es) (chainEs_sealInto c hw), (sealInto_fields c a w).2.2⟩

theorem writeCore_appends (hm : 0 < c.metaSz) (h : TInv c n a k) {w : ABlk} (hw : a.writer = some w) (long : Bool)
    (pay : Pay) (hlim : raw c pay ≤ c.maxAlloc) : Appends c n a k [pay] (writeCore c n a w long pay) := by
  -- branches of `writeCore`: 1 rotation with the allocation refused (excluded: the size is positive by `hm` and within
  -- `maxAlloc` by `hlim`); 2 rotation, then the topic name is too long for the header: the new block stays, empty;
  -- 3 rotation and write; 4 name too long, no rotation; 5 write into the active block
  fun_cases writeCore c n a w long pay with
  | case1 => have := raw_pos c hm pay; omega
  | case2 _ _ _ _ nb =>
    obtain ⟨hi, hl, hc⟩ := tinv_seal_new h hw nb rfl
    exact ⟨hi, Nat.le_succ _, hc, nofun, fun _ => hl.trans (List.append_nil _)⟩
  | case3 _ _ _ _ nb =>
    obtain ⟨hi, hl, hc⟩ := tinv_seal_new h hw { nb with es := [pay] } rfl
    exact ⟨hi, Nat.le_succ _, hc, fun _ => hl, fun hx => absurd rfl hx⟩
  | case4 => exact .rejected h _ _
  | case5 =>
    have := tinv_append_tail h hw [pay]
    exact ⟨this.1, Nat.le_refl _, rfl, fun _ => this.2, fun hx => absurd rfl hx⟩

theorem write_appends (hm : 0 < c.metaSz) (h : TInv c n a k) {w : ABlk} (hw : a.writer = some w) (long : Bool)
    (pay : Pay) : Appends c n a k [pay] (write c n a w long pay) := by
  fun_cases write c n a w long pay with
  | case1 => exact .rejected h _ _
  | case2 hbig => exact writeCore_appends hm h hw long pay (Nat.le_of_not_gt hbig)

/-- `Writer::write`: `write_appends` spelled out as a conjunction -/
theorem write_spec' (c : Cfg) (hm : 0 < c.metaSz) (n : Nat) (a : ATopic) (k : Nat) (h : TInv c n a k) (w : ABlk)
    (hw : a.writer = some w) (long : Bool) (pay : Pay) :
    let r := write c n a w long pay
    TInv c r.1 r.2.1 k ∧ n ≤ r.1 ∧ r.2.1.count = a.count ∧
      (r.2.2 = none → log r.2.1 = log a ++ [pay]) ∧ (r.2.2 ≠ none → log r.2.1 = log a) :=
  have r := write_appends hm h hw long pay
  ⟨r.inv, r.id_le, r.count, r.ok, r.err⟩

theorem sealInto_writer (c : Cfg) (a : ATopic) (w : ABlk) (wr wr' : Option ABlk) :
    ({ sealInto c { a with writer := wr' } w with writer := wr } : ATopic) = { sealInto c a w with writer := wr } := by
  unfold sealInto; split <;> rfl

/-- the planning loop of `batch_write`.  `batchPlan` carries the active block `w` beside `a`, whose `writer` field is
stale meanwhile: hence `{ a with writer := some w }`.  First conjunct: with `blockSize ≤ maxAlloc` and every entry within
the limit `alloc_block` cannot fail (branch 6 of `batchWriteCore` is unreachable); last: the log gains the batch whole. -/
theorem batchPlan_spec (hbs : c.blockSize ≤ c.maxAlloc) (hb0 : 0 < c.blockSize) (batch : List Pay) (w : ABlk)
    (h : TInv c n { a with writer := some w } k) (hl : ∀ p ∈ batch, raw c p ≤ c.maxAlloc) :
    let r := batchPlan c batch n a w
    r.2.2.2 = true ∧ n ≤ r.1 ∧ r.2.1.count = a.count ∧
      TInv c r.1 { r.2.1 with writer := some r.2.2.1 } k ∧
      log { r.2.1 with writer := some r.2.2.1 } = log { a with writer := some w } ++ batch := by
  fun_induction batchPlan c batch n a w with
  | case1 => exact ⟨rfl, Nat.le_refl _, rfl, h, (List.append_nil _).symm⟩
  | case2 pay rest n a w need hfit ih =>
    have hs := tinv_append_tail h rfl [pay]
    obtain ⟨h1, h2, h3, h4, h5⟩ := ih hs.1 fun q hq => hl q (List.mem_cons_of_mem _ hq)
    exact ⟨h1, h2, h3, h4, by rw [h5, hs.2, List.append_assoc]; rfl⟩
  | case3 pay rest n a w need _ _ want hbad =>
    have := hl pay List.mem_cons_self
    have : want ≤ c.maxAlloc := Nat.max_le.mpr ⟨this, hbs⟩
    have : c.blockSize ≤ want := Nat.le_max_right _ _
    omega
  | case4 pay rest n a w need _ a1 want _ ih =>
    obtain ⟨hi, hlog, _⟩ := tinv_seal_new h rfl ⟨n, unitsFor c want, [pay]⟩ rfl
    rw [sealInto_writer] at hi hlog
    obtain ⟨h1, h2, h3, h4, h5⟩ := ih hi fun q hq => hl q (List.mem_cons_of_mem _ hq)
    exact ⟨h1, Nat.le_of_succ_le h2, h3.trans (sealInto_fields c a w).2.2, h4, by rw [h5, hlog, List.append_assoc]; rfl⟩

/-- the limit on single entries is needed only for a batch that passes the size checks -/
theorem batchWriteCore_appends (hbs : c.blockSize ≤ c.maxAlloc) (hb0 : 0 < c.blockSize) (h : TInv c n a k) {w : ABlk}
    (hw : a.writer = some w) (long : Bool) (batch : List Pay)
    (hl : batch.length ≤ c.cap → (batch.map (raw c)).sum ≤ c.maxBatchBytes → ∀ p ∈ batch, raw c p ≤ c.maxAlloc) :
    Appends c n a k batch (batchWriteCore c n a w long batch) := by
  have ha : { a with writer := some w } = a := by cases a; cases hw; rfl
  have hplan := fun h1 h2 => batchPlan_spec hbs hb0 batch w (ha.symm ▸ h) (hl (Nat.le_of_not_gt h1) (Nat.le_of_not_gt h2))
  fun_cases batchWriteCore c n a w long batch with
  | case1 | case2 | case4 => exact .rejected h _ _
  | case3 _ _ he => exact ⟨h, Nat.le_refl _, rfl, fun _ => by simp [List.isEmpty_iff.mp he], fun hx => absurd rfl hx⟩
  | case5 h1 h2 _ _ n' a' w' hbp =>
    obtain ⟨_, hn, hc, hi, hlog⟩ := hbp ▸ hplan h1 h2
    exact ⟨hi, hn, hc, fun _ => ha ▸ hlog, fun hx => absurd rfl hx⟩
  | case6 h1 h2 _ _ _ _ _ hbp => exact nomatch (hbp ▸ hplan h1 h2).1

theorem batchWrite_appends (hbs : c.blockSize ≤ c.maxAlloc) (hb0 : 0 < c.blockSize) (h : TInv c n a k) {w : ABlk}
    (hw : a.writer = some w) (long : Bool) (batch : List Pay) :
    Appends c n a k batch (batchWrite c n a w long batch) := by
  fun_cases batchWrite c n a w long batch with
  | case1 => exact .rejected h _ _
  | case2 hbig =>
    -- an entry beyond the limit in a batch that passes the size checks is what the guard looks for
    refine batchWriteCore_appends hbs hb0 h hw long batch fun h1 h2 p hp => Nat.le_of_not_lt fun hlt => hbig ?_
    simp only [h1, h2, decide_true, Bool.true_and, List.any_eq_true, decide_eq_true_eq]
    exact ⟨p, hp, hlt⟩

/-- `Writer::batch_write`: `batchWrite_appends` spelled out as a conjunction -/
theorem batchWrite_spec' (c : Cfg) (hbs : c.blockSize ≤ c.maxAlloc) (hb0 : 0 < c.blockSize) (n : Nat) (a : ATopic)
    (k : Nat) (h : TInv c n a k) (w : ABlk) (hw : a.writer = some w) (long : Bool) (batch : List Pay) :
    let r := batchWrite c n a w long batch
    TInv c r.1 r.2.1 k ∧ n ≤ r.1 ∧ r.2.1.count = a.count ∧
      (r.2.2 = none → log r.2.1 = log a ++ batch) ∧ (r.2.2 ≠ none → log r.2.1 = log a) :=
  have r := batchWrite_appends hbs hb0 h hw long batch
  ⟨r.inv, r.id_le, r.count, r.ok, r.err⟩

end WalrusVerif.AEng
