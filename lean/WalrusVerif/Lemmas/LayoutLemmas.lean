import WalrusVerif.Lemmas.EngFrame
/-!
How friendly writes lay blocks out in a WAL file (storage-level model `Eng`): the write side of the recovery theorems
of Props/C06.lean.  "Friendly" = appends and batch appends that succeed: entries that fit one unit
(`metaSz + len ≤ blockSize`), topic names of ordinary length, no injected faults, room in the current file.
A write is described by what it does to the layout (`AppendEffect`, `BatchEffect`; `placeAll` is where the planner
puts the entries of a batch); `Free`, a byte range that no cell reaches into, is what the scan side needs of it.
-/
namespace WalrusVerif.Eng
open WalrusVerif

@[simp] theorem wside_appendBlockToChain (i : Inst) (t : Topic) (b : Blk) : (appendBlockToChain i t b).wside = i.wside := by
  unfold appendBlockToChain Inst.wside; rfl
@[simp] theorem wside_incCount (i : Inst) (t : Topic) (d : Nat) : (incCount i t d).wside = i.wside := by
  unfold incCount Inst.wside; split <;> rfl
@[simp] theorem wside_markClean (i : Inst) (t : Topic) (b : Bool) : (markClean i t b).wside = i.wside := by
  fun_cases markClean i t b <;> rfl
@[simp] theorem wside_putReader (i : Inst) (t : Topic) (x : ColInfo) : (putReader i t x).wside = i.wside := rfl
@[simp] theorem wside_setIndex (i : Inst) (t : Topic) (x : Pos) : (setIndex i t x).wside = i.wside := rfl

theorem Inst.wside_eq {i j : Inst} : i.wside = j.wside ↔
    i.allocFile = j.allocFile ∧ i.allocOff = j.allocOff ∧ i.allocId = j.allocId ∧ i.writers = j.writers := by
  simp only [Inst.wside, Prod.mk.injEq]

/-- the block the allocator hands out next when the current file has room -/
def nextBlk (c : Cfg) (i : Inst) : Blk :=
  { id := i.allocId, file := i.allocFile, off := i.allocOff, limit := c.blockSize, used := 0 }

theorem units_one {want bs : Nat} (h0 : 0 < want) (hbs : want ≤ bs) : (want + bs - 1) / bs = 1 :=
  Nat.div_eq_of_lt_le (by omega) (by omega)

theorem size_not_refused {want maxAlloc : Nat} (h0 : 0 < want) (hbig : want ≤ maxAlloc) : ¬ (want = 0 ∨ want > maxAlloc) := by
  omega

theorem allocBlock_ne_none {c : Cfg} {p : Proc} {i : Inst} {want : Nat} (h0 : 0 < want) (hbig : want ≤ c.maxAlloc) :
    allocBlock c p i want ≠ none := by
  fun_cases allocBlock c p i want with
  | case1 h => exact absurd h (size_not_refused h0 hbig)
  | case2 => nofun

theorem fits_iff {lim off need : Nat} (h : 0 < need) : lim - off ≥ need ↔ off + need ≤ lim := by omega

theorem lt_of_room {a bs fs : Nat} (hb : 0 < bs) (h : a + bs ≤ fs) : a < fs :=
  Nat.lt_of_lt_of_le (Nat.lt_add_of_pos_right hb) h

theorem room_succ {a n bs fs : Nat} (h : a + (n + 1) * bs ≤ fs) :
    a + bs ≤ fs ∧ a + n * bs ≤ fs ∧ a + bs + n * bs ≤ fs := by
  rw [Nat.succ_mul] at h
  omega

theorem allocBlock_unit (c : Cfg) (p : Proc) (i : Inst) (want : Nat) (h0 : 0 < want) (hbs : want ≤ c.blockSize)
    (hmax : c.blockSize ≤ c.maxAlloc) (hroom : i.allocOff + c.blockSize ≤ c.fileSize) :
    ∃ trk, allocBlock c p i want =
      some ({ p with trk := trk }, { i with allocOff := i.allocOff + c.blockSize, allocId := i.allocId + 1 }, nextBlk c i) := by
  have hu := units_one h0 hbs
  fun_cases allocBlock c p i want with
  | case1 h => exact absurd h (size_not_refused h0 (Nat.le_trans hbs hmax))
  | case2 _ units size p1 i1 hroll b =>
    simp only [b, size, units, hu, Nat.one_mul] at hroll ⊢
    rw [if_neg (Nat.not_lt.mpr hroom)] at hroll
    cases hroll
    exact ⟨_, rfl⟩

theorem getNextAvailableBlock_room (c : Cfg) (p : Proc) (i : Inst) (hroom : i.allocOff < c.fileSize) :
    ∃ trk, getNextAvailableBlock c p i =
      ({ p with trk := trk }, { i with allocOff := i.allocOff + c.blockSize, allocId := i.allocId + 1 }, nextBlk c i) := by
  fun_cases getNextAvailableBlock c p i with
  | case1 p1 i1 hroll =>
    rw [if_neg (Nat.not_le.mpr hroom)] at hroll
    cases hroll
    exact ⟨_, rfl⟩

theorem rotate_unit (c : Cfg) (p : Proc) (i : Inst) (t : Topic) (b : Blk) (u want : Nat) (h0 : 0 < want)
    (hbs : want ≤ c.blockSize) (hmax : c.blockSize ≤ c.maxAlloc) (hroom : i.allocOff + c.blockSize ≤ c.fileSize) :
    ∃ trk rd, allocBlock c (sealBlock p i t b u).1 (sealBlock p i t b u).2 want =
      some ({ p with trk := trk },
        { i with allocOff := i.allocOff + c.blockSize, allocId := i.allocId + 1, readers := rd }, nextBlk c i) := by
  obtain ⟨trk, h⟩ := allocBlock_unit c (sealBlock p i t b u).1 (sealBlock p i t b u).2 want h0 hbs hmax hroom
  exact ⟨trk, _, h⟩

theorem getOrCreateWriter_some {c : Cfg} {p : Proc} {i : Inst} {t : Topic} {w : Writer} (h : i.writers.get? t = some w) :
    getOrCreateWriter c p i t = (p, i, w) := by
  unfold getOrCreateWriter; rw [h]

theorem getOrCreateWriter_none {c : Cfg} {p : Proc} {i : Inst} {t : Topic} (h : i.writers.get? t = none)
    (hroom : i.allocOff < c.fileSize) :
    ∃ trk, getOrCreateWriter c p i t =
      ({ p with trk := trk },
        { i with allocOff := i.allocOff + c.blockSize, allocId := i.allocId + 1,
                 writers := i.writers.insert t { blk := nextBlk c i, off := 0 } }, { blk := nextBlk c i, off := 0 }) := by
  obtain ⟨trk, hn⟩ := getNextAvailableBlock_room c p i hroom
  unfold getOrCreateWriter
  rw [h, hn]
  exact ⟨trk, rfl⟩

/-- what a friendly append does, as far as the layout is concerned.  It is the `BatchEffect` of `[pay]`
(`batchEffect_of_append` below) and stands beside it because the single append needs no spare block and no
`cap` / `maxBatchBytes` hypotheses, which `batch_friendly` on `[pay]` would ask for. -/
structure AppendEffect (c : Cfg) (p : Proc) (i : Inst) (t : Topic) (pay : Pay) (p' : Proc) (i' : Inst) : Prop where
  allocFile : i'.allocFile = i.allocFile
  cases :
    -- first append to the topic, or the entry does not fit the writer's block: a new block, the entry at its start
    ((i.writers.get? t = none ∨ ∃ w, i.writers.get? t = some w ∧ w.off + (c.metaSz + pay.len) > w.blk.limit) ∧
      p'.files = writeCell c p.files (nextBlk c i) 0 t pay ∧ i'.allocOff = i.allocOff + c.blockSize ∧
      (∀ t', i'.writers.get? t' =
        if t = t' then some { blk := nextBlk c i, off := c.metaSz + pay.len } else i.writers.get? t')) ∨
    -- the entry fits the writer's block
    (∃ w, i.writers.get? t = some w ∧ w.off + (c.metaSz + pay.len) ≤ w.blk.limit ∧
      p'.files = writeCell c p.files w.blk w.off t pay ∧ i'.allocOff = i.allocOff ∧
      (∀ t', i'.writers.get? t' =
        if t = t' then some { w with off := w.off + (c.metaSz + pay.len) } else i.writers.get? t'))

theorem writerWrite_fits (c : Cfg) (p : Proc) (i : Inst) (t : Topic) (w : Writer) (pay : Pay)
    (hbig : c.metaSz + pay.len ≤ c.maxAlloc) (hlong : t.long = false) (hwb : w.batching = false)
    (hfits : w.off + (c.metaSz + pay.len) ≤ w.blk.limit) :
    writerWrite c p i t w pay =
      ({ p with files := writeCell c p.files w.blk w.off t pay },
        { i with writers := i.writers.insert t { w with off := w.off + (c.metaSz + pay.len) } }, none) := by
  simp only [writerWrite, writerWriteCore, hwb, Nat.not_lt.mpr hbig, Nat.not_lt.mpr hfits, hlong]
  simp [hwb]

theorem writerWrite_rotates (c : Cfg) (p : Proc) (i : Inst) (t : Topic) (w : Writer) (pay : Pay)
    (hm : 0 < c.metaSz) (hmax : c.blockSize ≤ c.maxAlloc) (hlong : t.long = false)
    (hfit : c.metaSz + pay.len ≤ c.blockSize) (hwb : w.batching = false)
    (hrot : w.off + (c.metaSz + pay.len) > w.blk.limit) (hroom : i.allocOff + c.blockSize ≤ c.fileSize) :
    ∃ trk rd, writerWrite c p i t w pay =
      ({ p with trk := trk, files := writeCell c p.files (nextBlk c i) 0 t pay },
        { i with allocOff := i.allocOff + c.blockSize, allocId := i.allocId + 1, readers := rd,
                 writers := i.writers.insert t { blk := nextBlk c i, off := c.metaSz + pay.len } }, none) := by
  obtain ⟨trk, rd, ha⟩ := rotate_unit c p i t w.blk w.off (c.metaSz + pay.len) (Nat.add_pos_left hm _) hfit hmax hroom
  refine ⟨trk, rd, ?_⟩
  simp only [writerWrite, writerWriteCore, hwb, Nat.not_lt.mpr (Nat.le_trans hfit hmax), hrot, ha, hlong]
  simp

/-- `AppendEffect` and `BatchEffect` mention the instances only through `wside`: the `markClean` before the write and
the `incCount` after it do not show -/
theorem AppendEffect.congr {c : Cfg} {p p' : Proc} {i j i' j' : Inst} {t : Topic} {pay : Pay}
    (h : j.wside = i.wside) (h' : j'.wside = i'.wside) (e : AppendEffect c p j t pay p' j') :
    AppendEffect c p i t pay p' i' := by
  obtain ⟨h1, h2, h3, h4⟩ := Inst.wside_eq.mp h
  obtain ⟨h1', h2', _, h4'⟩ := Inst.wside_eq.mp h'
  obtain ⟨a, b⟩ := e
  simp only [nextBlk, h1, h2, h3, h4, h1', h2', h4'] at a b
  exact ⟨a, b⟩

theorem append_friendly (c : Cfg) (p : Proc) (i : Inst) (t : Topic) (pay : Pay)
    (hm : 0 < c.metaSz) (hb0 : 0 < c.blockSize) (hmax : c.blockSize ≤ c.maxAlloc)
    (hlong : t.long = false) (hfit : c.metaSz + pay.len ≤ c.blockSize)
    (hroom : i.allocOff + c.blockSize ≤ c.fileSize)
    (hw : ∀ w, i.writers.get? t = some w → w.batching = false ∧ w.blk.limit = c.blockSize) :
    (appendForTopic c p i t pay).2.2 = .ok ∧
    AppendEffect c p i t pay (appendForTopic c p i t pay).1 (appendForTopic c p i t pay).2.1 := by
  have hj := wside_markClean i t false
  simp only [appendForTopic]
  generalize markClean i t false = j at hj ⊢
  obtain ⟨-, hjo, -, hjw⟩ := Inst.wside_eq.mp hj
  rw [← hjo] at hroom
  rw [← hjw] at hw
  have hbig := Nat.le_trans hfit hmax
  cases hwr : j.writers.get? t with
  | none =>
    -- a new writer on the next block, where the entry fits
    obtain ⟨trk, hg⟩ := getOrCreateWriter_none (p := p) hwr (lt_of_room hb0 hroom)
    simp only [hg, writerWrite_fits c _ _ t { blk := nextBlk c j, off := 0 } pay hbig hlong rfl ((Nat.zero_add _).symm ▸ hfit)]
    exact ⟨trivial, .congr hj (wside_incCount ..).symm
      ⟨rfl, .inl ⟨.inl hwr, rfl, rfl, fun t' => by rw [AMap.get?_insert_insert, Nat.zero_add]⟩⟩⟩
  | some w =>
    by_cases hrot : w.off + (c.metaSz + pay.len) > w.blk.limit
    · obtain ⟨trk, rd, hwri⟩ := writerWrite_rotates c p j t w pay hm hmax hlong hfit (hw w hwr).1 hrot hroom
      simp only [getOrCreateWriter_some hwr, hwri]
      exact ⟨trivial, .congr hj (wside_incCount ..).symm
        ⟨rfl, .inl ⟨.inr ⟨w, hwr, hrot⟩, rfl, rfl, fun t' => AMap.get?_insert ..⟩⟩⟩
    · simp only [getOrCreateWriter_some hwr, writerWrite_fits c p j t w pay hbig hlong (hw w hwr).1 (Nat.le_of_not_lt hrot)]
      exact ⟨trivial, .congr hj (wside_incCount ..).symm
        ⟨rfl, .inr ⟨w, hwr, Nat.le_of_not_lt hrot, rfl, rfl, fun t' => AMap.get?_insert ..⟩⟩⟩

/-- the planner asks for at least one unit; for the allocator that is the same request -/
theorem allocBlock_max (c : Cfg) (p : Proc) (i : Inst) (want : Nat) (h0 : 0 < want) (hb0 : 0 < c.blockSize)
    (hmax : c.blockSize ≤ c.maxAlloc) : allocBlock c p i (max want c.blockSize) = allocBlock c p i want := by
  rcases Nat.le_total want c.blockSize with h | h
  · rw [Nat.max_eq_right h]
    simp only [allocBlock, size_not_refused h0 (Nat.le_trans h hmax), size_not_refused hb0 hmax, if_false, units_one h0 h,
      units_one hb0 (Nat.le_refl _)]
  · rw [Nat.max_eq_left h]

theorem writerBatchWrite_singleton (c : Cfg) (p : Proc) (i : Inst) (t : Topic) (w : Writer) (pay : Pay)
    (hm : 0 < c.metaSz) (hb0 : 0 < c.blockSize) (hmax : c.blockSize ≤ c.maxAlloc) (hcap : 0 < c.cap)
    (hmb : c.metaSz + pay.len ≤ c.maxBatchBytes) (hbig : c.metaSz + pay.len ≤ c.maxAlloc) (hlong : t.long = false) :
    writerBatchWrite c p i t w [pay] = writerWrite c p i t w pay := by
  have hneed : 0 < c.metaSz + pay.len := Nat.add_pos_left hm _
  have hbig' : ¬ c.metaSz + pay.len > c.maxAlloc := Nat.not_lt.mpr hbig
  have hcap' : ¬ 1 > c.cap := Nat.not_lt.mpr hcap
  have hmb' : ¬ c.metaSz + pay.len > c.maxBatchBytes := Nat.not_lt.mpr hmb
  -- both calls pass their checks: one entry, within the byte limit, not oversized, an ordinary topic name
  simp only [writerBatchWrite, writerWrite, writerBatchWriteCore, writerWriteCore,
    List.length_singleton, List.map_cons, List.map_nil, List.sum_cons, List.sum_nil, Nat.add_zero, List.isEmpty_cons,
    List.any_cons, List.any_nil, hcap', hmb', hbig', hlong,
    decide_false, Bool.or_false, Bool.and_false, Bool.false_eq_true, if_false]
  by_cases hb : w.batching = true
  · rw [if_pos hb, if_pos hb]
  rw [if_neg hb, if_neg hb, planBatch]
  by_cases hfits : w.off + (c.metaSz + pay.len) ≤ w.blk.limit
  · -- the entry fits the writer's block
    rw [if_pos ((fits_iff hneed).mpr hfits), if_neg (Nat.not_lt.mpr hfits)]
    rfl
  · -- rotation: both seal the block and ask the allocator for the same block
    rw [if_neg (mt (fits_iff hneed).mp hfits), if_pos (Nat.not_le.mp hfits)]
    simp only [allocBlock_max c _ _ _ hneed hb0 hmax]
    cases ha : allocBlock c (sealBlock p i t w.blk w.off).1 (sealBlock p i t w.blk w.off).2 (c.metaSz + pay.len) with
    | none => exact absurd ha (allocBlock_ne_none hneed hbig)
    | some r => simp [planBatch, batchFails]

/-- a batch of one entry is the single append; `batch_append_for_topic(key, &[data])` is the call the data plane of
distributed-walrus makes -/
theorem batchAppend_singleton (c : Cfg) (p : Proc) (i : Inst) (t : Topic) (pay : Pay)
    (hm : 0 < c.metaSz) (hb0 : 0 < c.blockSize) (hmax : c.blockSize ≤ c.maxAlloc) (hcap : 0 < c.cap)
    (hmb : c.metaSz + pay.len ≤ c.maxBatchBytes) (hbig : c.metaSz + pay.len ≤ c.maxAlloc) (hlong : t.long = false) :
    batchAppendForTopic c p i t [pay] = appendForTopic c p i t pay := by
  unfold batchAppendForTopic appendForTopic
  simp only [writerBatchWrite_singleton c _ _ t _ pay hm hb0 hmax hcap hmb hbig hlong, List.length_singleton]

/-- `append_friendly` through `batchAppend_singleton` -/
theorem batch1_friendly (c : Cfg) (p : Proc) (i : Inst) (t : Topic) (pay : Pay)
    (hm : 0 < c.metaSz) (hb0 : 0 < c.blockSize) (hmax : c.blockSize ≤ c.maxAlloc) (hcap : 0 < c.cap)
    (hmb : c.blockSize ≤ c.maxBatchBytes)
    (hlong : t.long = false) (hfit : c.metaSz + pay.len ≤ c.blockSize)
    (hroom : i.allocOff + c.blockSize ≤ c.fileSize)
    (hw : ∀ w, i.writers.get? t = some w → w.batching = false ∧ w.blk.limit = c.blockSize) :
    (batchAppendForTopic c p i t [pay]).2.2 = .ok ∧
    AppendEffect c p i t pay (batchAppendForTopic c p i t [pay]).1 (batchAppendForTopic c p i t [pay]).2.1 := by
  rw [batchAppend_singleton c p i t pay hm hb0 hmax hcap (Nat.le_trans hfit hmb) (Nat.le_trans hfit hmax) hlong]
  exact append_friendly c p i t pay hm hb0 hmax hlong hfit hroom hw

/-- where the entries of a batch to one topic land: (block offset, in-block offset, payload) for each, and the
writer's block offset, in-block offset and the allocator offset afterwards -/
def placeAll (c : Cfg) : List Pay → Nat → Nat → Nat → List (Nat × Nat × Pay) × Nat × Nat × Nat
  | [], bo, off, aoff => ([], bo, off, aoff)
  | p :: r, bo, off, aoff =>
    if off + (c.metaSz + p.len) ≤ c.blockSize then
      ((bo, off, p) :: (placeAll c r bo (off + (c.metaSz + p.len)) aoff).1, (placeAll c r bo (off + (c.metaSz + p.len)) aoff).2)
    else
      ((aoff, 0, p) :: (placeAll c r aoff (c.metaSz + p.len) (aoff + c.blockSize)).1,
        (placeAll c r aoff (c.metaSz + p.len) (aoff + c.blockSize)).2)

theorem placeAll_fit {c : Cfg} {p : Pay} {off : Nat} (h : off + (c.metaSz + p.len) ≤ c.blockSize) (r : List Pay) (bo aoff : Nat) :
    placeAll c (p :: r) bo off aoff =
      ((bo, off, p) :: (placeAll c r bo (off + (c.metaSz + p.len)) aoff).1, (placeAll c r bo (off + (c.metaSz + p.len)) aoff).2) :=
  if_pos h

theorem placeAll_new {c : Cfg} {p : Pay} {off : Nat} (h : ¬ off + (c.metaSz + p.len) ≤ c.blockSize) (r : List Pay) (bo aoff : Nat) :
    placeAll c (p :: r) bo off aoff =
      ((aoff, 0, p) :: (placeAll c r aoff (c.metaSz + p.len) (aoff + c.blockSize)).1,
        (placeAll c r aoff (c.metaSz + p.len) (aoff + c.blockSize)).2) :=
  if_neg h

/-- (The hypothesis `off ≤ c.blockSize` is not used.) -/
theorem plan_friendly (c : Cfg) (t : Topic) (hm : 0 < c.metaSz) (hb0 : 0 < c.blockSize) (hmax : c.blockSize ≤ c.maxAlloc)
    (ps : List Pay) :
    ∀ (p : Proc) (i : Inst) (b : Blk) (off : Nat) (acc : List (Blk × Nat × Pay)),
      b.limit = c.blockSize → off ≤ c.blockSize → b.file = i.allocFile →
      (∀ q ∈ ps, c.metaSz + q.len ≤ c.blockSize) → i.allocOff + ps.length * c.blockSize ≤ c.fileSize →
      ∃ p' i' nb off' items, planBatch c t ps p i b off acc = (p', i', nb, some (off', acc.reverse ++ items)) ∧
        p'.files = p.files ∧ i'.allocFile = i.allocFile ∧ i'.writers = i.writers ∧
        nb.limit = c.blockSize ∧ nb.file = i.allocFile ∧
        (nb.off, off', i'.allocOff) = (placeAll c ps b.off off i.allocOff).2 ∧
        items.map (fun x => (x.1.off, x.2.1, x.2.2)) = (placeAll c ps b.off off i.allocOff).1 ∧
        (∀ x ∈ items, x.1.file = i.allocFile) := by
  intro p i b off acc
  -- case1: the plan is done; case2: the entry fits the block; case3: rotation with the allocation refused, which the
  -- hypotheses exclude; case4: rotation
  fun_induction planBatch c t ps p i b off acc with
  | case1 p i b off acc =>
    intro hl _ hf _ _
    exact ⟨p, i, b, off, [], by rw [List.append_nil], rfl, rfl, rfl, hl, hf, rfl, rfl, by simp⟩
  | case2 q r p i b off acc need hfits ih =>
    intro hl hoff hf hfit hroom
    have hfits' : off + (c.metaSz + q.len) ≤ c.blockSize := hl ▸ (fits_iff (Nat.add_pos_left hm _)).mp hfits
    obtain ⟨p', i', nb, off', items, he, hfiles, hafile, hwr, hnlim, hnfile, hpos, hitems, hifile⟩ :=
      ih hl hfits' hf (fun x hx => hfit x (List.mem_cons_of_mem _ hx)) (room_succ hroom).2.1
    rw [placeAll_fit hfits']
    exact ⟨p', i', nb, off', (b, off, q) :: items, by rw [he]; simp, hfiles, hafile, hwr, hnlim, hnfile, hpos,
      by rw [List.map_cons, hitems], List.forall_mem_cons.mpr ⟨hf, hifile⟩⟩
  | case3 q r p i b off acc need hfits p1 i1 hs ha =>
    intro _ _ _ hfit _
    exact absurd ha (allocBlock_ne_none (Nat.lt_of_lt_of_le hb0 (Nat.le_max_right ..))
      (Nat.max_le.mpr ⟨Nat.le_trans (hfit q List.mem_cons_self) hmax, hmax⟩))
  | case4 q r p i b off acc need hfits p1 i1 hs p2 i2 nb ha ih =>
    intro hl hoff hf hfit hroom
    have hq := hfit q List.mem_cons_self
    obtain ⟨trk, rd, ha'⟩ := rotate_unit c p i t b off c.blockSize hb0 (Nat.le_refl _) hmax (room_succ hroom).1
    rw [show max need c.blockSize = c.blockSize from Nat.max_eq_right hq] at ha
    rw [hs, ha] at ha'
    cases ha'
    obtain ⟨p', i', nb, off', items, he, hfiles, hafile, hwr, hnlim, hnfile, hpos, hitems, hifile⟩ :=
      ih rfl hq rfl (fun x hx => hfit x (List.mem_cons_of_mem _ hx)) (room_succ hroom).2.2
    rw [placeAll_new fun h => hfits ((fits_iff (Nat.add_pos_left hm _)).mpr (hl ▸ h))]
    exact ⟨p', i', nb, off', (nextBlk c i, 0, q) :: items, by rw [he]; simp, hfiles, hafile, hwr, hnlim, hnfile, hpos,
      by rw [List.map_cons, hitems]; rfl, List.forall_mem_cons.mpr ⟨rfl, hifile⟩⟩

/-- the cells after writing the placed entries of topic `t`, in order -/
def cellsAfter (c : Cfg) (t : Topic) (cells : List Cell) (places : List (Nat × Nat × Pay)) : List Cell :=
  places.foldl (fun cs x => clobber c cs (x.1 + x.2.1) (x.1 + x.2.1 + c.metaSz + x.2.2.len) ++ [⟨x.1 + x.2.1, t, x.2.2⟩]) cells

theorem cellsAfter_cons (c : Cfg) (t : Topic) (cells : List Cell) (x : Nat × Nat × Pay) (r : List (Nat × Nat × Pay)) :
    cellsAfter c t cells (x :: r) =
      cellsAfter c t (clobber c cells (x.1 + x.2.1) (x.1 + x.2.1 + c.metaSz + x.2.2.len) ++ [⟨x.1 + x.2.1, t, x.2.2⟩]) r := rfl

theorem fileCells_writeCell (c : Cfg) (files : List FileSt) (b : Blk) (inOff : Nat) (t : Topic) (pay : Pay) (f : Nat) :
    fileCells (writeCell c files b inOff t pay) f =
      if f = b.file ∧ f < files.length then
        clobber c (fileCells files f) (b.off + inOff) (b.off + inOff + c.metaSz + pay.len) ++
          [{ off := b.off + inOff, topic := t, pay := pay }]
      else fileCells files f := by
  unfold writeCell; exact fileCells_updFileCells ..

theorem writeCell_length (c : Cfg) (files : List FileSt) (b : Blk) (inOff : Nat) (t : Topic) (pay : Pay) :
    (writeCell c files b inOff t pay).length = files.length := by
  unfold writeCell; exact length_updFileCells ..

theorem fileCells_plan (c : Cfg) (t : Topic) (f : Nat) (plan : List (Blk × Nat × Pay)) :
    ∀ (files : List FileSt), f < files.length → (∀ x ∈ plan, x.1.file = f) →
      fileCells (plan.foldl (fun fs (x : Blk × Nat × Pay) => writeCell c fs x.1 x.2.1 t x.2.2) files) f =
        cellsAfter c t (fileCells files f) (plan.map fun x => (x.1.off, x.2.1, x.2.2)) ∧
      (plan.foldl (fun fs (x : Blk × Nat × Pay) => writeCell c fs x.1 x.2.1 t x.2.2) files).length = files.length := by
  induction plan with
  | nil => intro files _ _; exact ⟨rfl, rfl⟩
  | cons x r ih =>
    intro files hf hall
    obtain ⟨h1, h2⟩ := ih (writeCell c files x.1 x.2.1 t x.2.2) (by rw [writeCell_length]; exact hf)
      (fun y hy => hall y (List.mem_cons_of_mem _ hy))
    refine ⟨?_, h2.trans (writeCell_length ..)⟩
    rw [List.foldl_cons, h1, fileCells_writeCell, if_pos ⟨(hall x List.mem_cons_self).symm, hf⟩]
    rfl

/-- the layout-relevant part of a writer -/
def wproj (w : Writer) : Nat × Nat × Nat × Nat × Bool := (w.blk.file, w.blk.off, w.blk.limit, w.off, w.batching)

/-- what a friendly batch of one-unit entries does, as far as the layout is concerned -/
structure BatchEffect (c : Cfg) (p : Proc) (i : Inst) (t : Topic) (ps : List Pay) (p' : Proc) (i' : Inst) : Prop where
  allocFile : i'.allocFile = i.allocFile
  len : p'.files.length = p.files.length
  eff : ∃ bo off aoff0,
    ((i.writers.get? t = none ∧ bo = i.allocOff ∧ off = 0 ∧ aoff0 = i.allocOff + c.blockSize) ∨
      (∃ w, i.writers.get? t = some w ∧ bo = w.blk.off ∧ off = w.off ∧ aoff0 = i.allocOff)) ∧
    fileCells p'.files i.allocFile = cellsAfter c t (fileCells p.files i.allocFile) (placeAll c ps bo off aoff0).1 ∧
    i'.allocOff = (placeAll c ps bo off aoff0).2.2.2 ∧
    (∀ t', (i'.writers.get? t').map wproj =
      if t = t' then some (i.allocFile, (placeAll c ps bo off aoff0).2.1, c.blockSize, (placeAll c ps bo off aoff0).2.2.1, false)
      else (i.writers.get? t').map wproj)

theorem map_wproj_ite {t t' : Topic} {w : Writer} {x : Nat × Nat × Nat × Nat × Bool} {o : Option Writer} (h : wproj w = x) :
    (if t = t' then some w else o).map wproj = if t = t' then some x else o.map wproj := by
  split
  · exact congrArg some h
  · rfl

theorem BatchEffect.congr {c : Cfg} {p p' : Proc} {i j i' j' : Inst} {t : Topic} {ps : List Pay}
    (h : j.wside = i.wside) (h' : j'.wside = i'.wside) (e : BatchEffect c p j t ps p' j') :
    BatchEffect c p i t ps p' i' := by
  obtain ⟨h1, h2, _, h4⟩ := Inst.wside_eq.mp h
  obtain ⟨h1', h2', _, h4'⟩ := Inst.wside_eq.mp h'
  obtain ⟨a, b, d⟩ := e
  simp only [h1, h2, h4, h1', h2', h4'] at a d
  exact ⟨a, b, d⟩

theorem batchEffect_of_append {c : Cfg} {p p' : Proc} {i i' : Inst} {t : Topic} {pay : Pay}
    (eff : AppendEffect c p i t pay p' i') (hfit : c.metaSz + pay.len ≤ c.blockSize) (hin : i.allocFile < p.files.length)
    (hw : ∀ w, i.writers.get? t = some w →
      w.batching = false ∧ w.blk.limit = c.blockSize ∧ w.blk.file = i.allocFile ∧ w.off ≤ c.blockSize) :
    BatchEffect c p i t [pay] p' i' := by
  obtain ⟨hfile, hcases⟩ := eff
  rcases hcases with ⟨hwhy, hfiles, halloc, hwr⟩ | ⟨w, hwt, hwfit, hfiles, halloc, hwr⟩
  · -- a new block at the allocator's position
    have hcells : fileCells p'.files i.allocFile =
        cellsAfter c t (fileCells p.files i.allocFile) [(i.allocOff, 0, pay)] := by
      rw [hfiles, fileCells_writeCell, if_pos ⟨rfl, hin⟩]; rfl
    have hwr' : ∀ t', (i'.writers.get? t').map wproj =
        if t = t' then some (i.allocFile, i.allocOff, c.blockSize, c.metaSz + pay.len, false) else (i.writers.get? t').map wproj := by
      intro t'; rw [hwr t']; exact map_wproj_ite rfl
    refine ⟨hfile, by rw [hfiles, writeCell_length], ?_⟩
    rcases hwhy with hnone | ⟨w, hwt, hrot⟩
    · refine ⟨i.allocOff, 0, i.allocOff + c.blockSize, .inl ⟨hnone, rfl, rfl, rfl⟩, ?_⟩
      rw [placeAll_fit (Nat.zero_add _ ▸ hfit), Nat.zero_add]
      exact ⟨hcells, halloc, hwr'⟩
    · refine ⟨w.blk.off, w.off, i.allocOff, .inr ⟨w, hwt, rfl, rfl, rfl⟩, ?_⟩
      rw [placeAll_new ((hw w hwt).2.1 ▸ Nat.not_le.mpr hrot)]
      exact ⟨hcells, halloc, hwr'⟩
  · -- behind the entries of the writer's block
    obtain ⟨hwb, hwl, hwf, -⟩ := hw w hwt
    refine ⟨hfile, by rw [hfiles, writeCell_length], w.blk.off, w.off, i.allocOff, .inr ⟨w, hwt, rfl, rfl, rfl⟩, ?_⟩
    rw [placeAll_fit (hwl ▸ hwfit)]
    refine ⟨by rw [hfiles, fileCells_writeCell, if_pos ⟨hwf.symm, hin⟩]; rfl, halloc, fun t' => ?_⟩
    rw [hwr t']
    exact map_wproj_ite (by simp only [wproj, hwb, hwl, hwf]; rfl)

theorem writerBatchWrite_friendly (c : Cfg) (p : Proc) (i : Inst) (t : Topic) (w : Writer) (ps : List Pay)
    (hm : 0 < c.metaSz) (hb0 : 0 < c.blockSize) (hmax : c.blockSize ≤ c.maxAlloc)
    (hlong : t.long = false) (hne : ps ≠ []) (hfit : ∀ q ∈ ps, c.metaSz + q.len ≤ c.blockSize)
    (hcap : ps.length ≤ c.cap) (hbytes : (ps.map fun x => c.metaSz + x.len).sum ≤ c.maxBatchBytes)
    (hwb : w.batching = false) (hwl : w.blk.limit = c.blockSize) (hwf : w.blk.file = i.allocFile) (hwo : w.off ≤ c.blockSize)
    (hroom : i.allocOff + ps.length * c.blockSize ≤ c.fileSize) (hin : i.allocFile < p.files.length) :
    ∃ p' i', writerBatchWrite c p i t w ps = (p', i', none) ∧ i'.allocFile = i.allocFile ∧
      p'.files.length = p.files.length ∧
      fileCells p'.files i.allocFile =
        cellsAfter c t (fileCells p.files i.allocFile) (placeAll c ps w.blk.off w.off i.allocOff).1 ∧
      i'.allocOff = (placeAll c ps w.blk.off w.off i.allocOff).2.2.2 ∧
      ∃ w', i'.writers = i.writers.insert t w' ∧ wproj w' = (i.allocFile, (placeAll c ps w.blk.off w.off i.allocOff).2.1,
        c.blockSize, (placeAll c ps w.blk.off w.off i.allocOff).2.2.1, false) := by
  have hpre : ps.any (fun x => decide (c.metaSz + x.len > c.maxAlloc)) = false :=
    List.any_eq_false.mpr fun x hx h => Nat.not_lt.mpr (Nat.le_trans (hfit x hx) hmax) (of_decide_eq_true h)
  obtain ⟨p1, i1, nb, off', items, he, hfiles, hafile, hwr, hnlim, hnfile, hpos, hitems, hifile⟩ :=
    plan_friendly c t hm hb0 hmax ps p i w.blk w.off [] hwl hwo hwf hfit hroom
  rw [List.reverse_nil, List.nil_append] at he
  obtain ⟨hc1, hc2⟩ := fileCells_plan c t i.allocFile items p1.files (hfiles ▸ hin) hifile
  simp only [Prod.ext_iff] at hpos
  have h3 : ps.isEmpty = false := List.isEmpty_eq_false_iff.mpr hne
  simp only [writerBatchWrite, writerBatchWriteCore, hpre, Bool.and_false, Nat.not_lt.mpr hcap, Nat.not_lt.mpr hbytes, h3, hlong,
    hwb, he, batchFails]
  refine ⟨_, _, rfl, hafile, hc2.trans (congrArg _ hfiles), hc1.trans (by rw [hitems, hfiles]), hpos.2.2, _, by rw [hwr], ?_⟩
  simp only [wproj, hnfile, hpos.1, hnlim, hpos.2.1]

theorem batch_friendly (c : Cfg) (p : Proc) (i : Inst) (t : Topic) (ps : List Pay)
    (hm : 0 < c.metaSz) (hb0 : 0 < c.blockSize) (hmax : c.blockSize ≤ c.maxAlloc)
    (hlong : t.long = false) (hne : ps ≠ []) (hfit : ∀ q ∈ ps, c.metaSz + q.len ≤ c.blockSize)
    (hcap : ps.length ≤ c.cap) (hbytes : (ps.map fun x => c.metaSz + x.len).sum ≤ c.maxBatchBytes)
    (hroom : i.allocOff + (ps.length + 1) * c.blockSize ≤ c.fileSize) (hin : i.allocFile < p.files.length)
    (hw : ∀ w, i.writers.get? t = some w →
      w.batching = false ∧ w.blk.limit = c.blockSize ∧ w.blk.file = i.allocFile ∧ w.off ≤ c.blockSize) :
    (batchAppendForTopic c p i t ps).2.2 = .ok ∧
    BatchEffect c p i t ps (batchAppendForTopic c p i t ps).1 (batchAppendForTopic c p i t ps).2.1 := by
  have hj := wside_markClean i t false
  simp only [batchAppendForTopic]
  generalize markClean i t false = j at hj ⊢
  obtain ⟨hjf, hjo, -, hjw⟩ := Inst.wside_eq.mp hj
  rw [← hjo] at hroom
  rw [← hjw, ← hjf] at hw
  rw [← hjf] at hin
  obtain ⟨hroom1, hroomn, hroom1n⟩ := room_succ hroom
  cases hwr : j.writers.get? t with
  | none =>
    obtain ⟨trk, hg⟩ := getOrCreateWriter_none (p := p) hwr (lt_of_room hb0 hroom1)
    obtain ⟨p2, i2, hwri, hfile, hlen, hcells, halloc, w', hws, hw'⟩ := writerBatchWrite_friendly c { p with trk := trk }
      { j with allocOff := j.allocOff + c.blockSize, allocId := j.allocId + 1,
               writers := j.writers.insert t { blk := nextBlk c j, off := 0 } }
      t { blk := nextBlk c j, off := 0 } ps hm hb0 hmax hlong hne hfit hcap hbytes rfl rfl rfl (Nat.zero_le _) hroom1n hin
    simp only [hg, hwri]
    exact ⟨trivial, .congr hj (wside_incCount ..).symm ⟨hfile, hlen, j.allocOff, 0, j.allocOff + c.blockSize,
      .inl ⟨hwr, rfl, rfl, rfl⟩, hcells, halloc, fun t' => by rw [hws, AMap.get?_insert_insert]; exact map_wproj_ite hw'⟩⟩
  | some w =>
    obtain ⟨hwb, hwl, hwf, hwo⟩ := hw w hwr
    obtain ⟨p2, i2, hwri, hfile, hlen, hcells, halloc, w', hws, hw'⟩ := writerBatchWrite_friendly c p j t w ps hm hb0 hmax
      hlong hne hfit hcap hbytes hwb hwl hwf hwo hroomn hin
    simp only [getOrCreateWriter_some hwr, hwri]
    exact ⟨trivial, .congr hj (wside_incCount ..).symm ⟨hfile, hlen, w.blk.off, w.off, j.allocOff,
      .inr ⟨w, hwr, rfl, rfl, rfl⟩, hcells, halloc, fun t' => by rw [hws, AMap.get?_insert]; exact map_wproj_ite hw'⟩⟩

theorem cellAt_append_some (cs : List Cell) (x y : Cell) (o : Nat) (h : cellAt cs o = some y) :
    cellAt (cs ++ [x]) o = some y := by
  unfold cellAt at *
  rw [List.find?_append, h]; rfl

theorem cellAt_append_new {cs : List Cell} (x : Cell) (h : cellAt cs x.off = none) : cellAt (cs ++ [x]) x.off = some x := by
  unfold cellAt at *
  rw [List.find?_append, h]
  simp

theorem mem_of_cellAt (cells : List Cell) (o : Nat) (y : Cell) (h : cellAt cells o = some y) : y ∈ cells ∧ y.off = o := by
  unfold cellAt at h
  exact ⟨List.mem_of_find?_eq_some h, by simpa using List.find?_some h⟩

theorem pos_lt_stop {c : Cfg} (hm : 0 < c.metaSz) (o n : Nat) : o < o + c.metaSz + n :=
  Nat.lt_of_lt_of_le (Nat.lt_add_of_pos_right hm) (Nat.le_add_right _ _)

/-- no cell reaches into the byte range `[lo, hi)`: the range reads as unwritten, and a write to it destroys nothing -/
def Free (c : Cfg) (cells : List Cell) (lo hi : Nat) : Prop := ∀ y ∈ cells, y.stop c ≤ lo ∨ hi ≤ y.off

namespace Free
variable {c : Cfg} {cells : List Cell} {lo hi : Nat}

theorem cellAt (h : Free c cells lo hi) (hm : 0 < c.metaSz) (hlt : lo < hi) : cellAt cells lo = none := by
  cases hc : Eng.cellAt cells lo with
  | none => rfl
  | some y =>
    obtain ⟨hy, rfl⟩ := mem_of_cellAt _ _ _ hc
    rcases h y hy with h | h
    · exact absurd h (Nat.not_le.mpr (pos_lt_stop hm ..))
    · exact absurd h (Nat.not_le.mpr hlt)

theorem clobber (h : Free c cells lo hi) : clobber c cells lo hi = cells := by
  unfold Eng.clobber
  refine List.filter_eq_self.mpr fun y hy => ?_
  simp only [Bool.not_eq_true', Bool.and_eq_false_iff, decide_eq_false_iff_not, Nat.not_lt]
  exact (h y hy).symm

theorem unitKind (h : Free c cells lo hi) (hm : 0 < c.metaSz) (hlt : lo < hi) : unitKind c cells lo = .zero := by
  have : cells.find? (fun x => decide (x.off < lo) && decide (lo < x.stop c)) = none := by
    rw [List.find?_eq_none]
    intro y hy
    simp only [Bool.and_eq_true, decide_eq_true_eq, not_and, Nat.not_lt]
    intro h1
    exact (h y hy).resolve_right (Nat.not_le.mpr (Nat.lt_trans h1 hlt))
  unfold Eng.unitKind
  rw [h.cellAt hm hlt, this]

end Free

theorem blockLimitOf_unit (c : Cfg) (x : Cell) (h0 : 0 < c.metaSz) (h : c.metaSz + x.pay.len ≤ c.blockSize) :
    blockLimitOf c x = c.blockSize := by
  unfold blockLimitOf
  rw [units_one (Nat.add_pos_left h0 _) h]
  exact Nat.one_mul _

end WalrusVerif.Eng
