import WalrusVerif.Lemmas.AEngBatch
/-! Progress of the cursor-based batch read: if an entry is unconsumed, at least one is returned. -/
namespace WalrusVerif.AEng
open WalrusVerif WalrusVerif.Eng

/-- the planner's peek asks for at least the whole entry it looks at -/
theorem peekWant_ge (c : Cfg) (b : ABlk) (off want : Nat) (e : Pay) (hent : entryAt c b.es off = some e)
    (hfit : off + raw c e ≤ b.used c) : raw c e ≤ peekWant c b off want := by
  have key : ∀ F, raw c e ≤ F → raw c e ≤ (if F > want then F else want) := by
    intro F h; split <;> omega
  unfold peekWant
  simp only [header_fits hfit, if_true, hent]
  apply key
  split
  · split
    · split
      · exact Nat.le_add_right _ _
      · exact Nat.le_refl _
    · exact Nat.le_refl _
  · exact Nat.le_refl _

/-- the plan begins with a range that holds a whole entry at its start -/
def Starts (c : Cfg) (plan : List ARange) : Prop :=
  ∃ r rest e, plan = r :: rest ∧ entryAt c r.es r.start = some e ∧ r.start + raw c e ≤ r.stop

theorem Starts.of_prefix {c : Cfg} {p q : List ARange} (h : Starts c p) (hpq : p <+: q) : Starts c q := by
  obtain ⟨r, rest, e, rfl, he⟩ := h
  obtain ⟨t, rfl⟩ := hpq
  exact ⟨r, rest ++ t, e, rfl, he⟩

theorem planAdd_prefix (b : ABlk) (s : APlanSt) (stop : Nat) : s.plan <+: (planAdd b s stop).plan :=
  (planAdd_plan b s stop).1 ▸ List.prefix_append _ _

theorem planLoop_prefix (c : Cfg) (chain : List ABlk) (maxB : Nat) (st : Bool) (fuel : Nat) (s : APlanSt) :
    s.plan <+: (planLoop c chain maxB st fuel s).plan := by
  fun_induction planLoop c chain maxB st fuel s with
  | case3 => assumption
  | case4 => exact planAdd_prefix ..
  | case5 => rename_i ih; exact (planAdd_prefix ..).trans ih
  | _ => exact List.prefix_refl _

/-- the first range planned from a boundary inside a block holds the whole entry at that boundary
(the planner's peek) -/
theorem planAdd_starts (c : Cfg) (hm : 0 < c.metaSz) (b : ABlk) (s : APlanSt) (maxB : Nat) (j : Nat)
    (hoff : s.curOff = bytes c (b.es.take j)) (hex : ¬ s.curOff ≥ b.used c) (hpl : s.plan = []) (hpn : s.planned = 0) :
    Starts c (planAdd b s (planStop c b s maxB false)).plan := by
  obtain ⟨hjl, hent, hnext⟩ := entryAt_boundary_lt c hm b.es j _ hoff (Nat.lt_of_not_le hex)
  have hfit : s.curOff + raw c b.es[j] ≤ b.used c := hnext ▸ bytes_take_le c b.es (j + 1)
  have hwant : raw c b.es[j] ≤ planWant c b s maxB false := by
    unfold planWant
    simp only [hpn, if_true, Bool.false_eq_true, false_and, if_false]
    exact peekWant_ge c b _ _ _ hent hfit
  have hstop : s.curOff + raw c b.es[j] ≤ planStop c b s maxB false :=
    Nat.le_min.mpr ⟨hfit, Nat.add_le_add_left hwant _⟩
  have hgt : planStop c b s maxB false > s.curOff :=
    Nat.lt_of_lt_of_le (Nat.lt_add_of_pos_right (raw_pos c hm _)) hstop
  rw [(planAdd_plan b s _).1, if_pos hgt, hpl]
  exact ⟨_, [], _, rfl, hent, hstop⟩

/-- the second disjunct hands over to `tailPlan_starts`: the loop went through the whole chain and planned nothing, so
the entry at `g`, if there is one, is in the tail block -/
theorem planLoop_starts (c : Cfg) (hm : 0 < c.metaSz) (a : ATopic) (maxB : Nat) (fuel : Nat) (s : APlanSt) (g : Nat)
    (hpl : s.plan = []) (hpn : s.planned = 0) (hp : PosDen c a.chain s.curIdx s.curOff g)
    (hf : a.chain.length - s.curIdx < fuel) :
    Starts c (planLoop c a.chain maxB false fuel s).plan ∨
      ((planLoop c a.chain maxB false fuel s).plan = [] ∧
        (planLoop c a.chain maxB false fuel s).curIdx ≥ a.chain.length ∧ g = (chainEs a.chain).length) := by
  -- the branches of `planLoop` are numbered at `planLoop_good`
  fun_induction planLoop c a.chain maxB false fuel s with
  | case1 => omega
  | case2 _ s hb =>
    have hge : s.curIdx ≥ a.chain.length := List.getElem?_eq_none_iff.mp hb
    exact .inr ⟨hpl, hge, hp.atEnd (Nat.le_antisymm hp.idx_le hge)⟩
  | case3 _ s b hb _ hex ih =>
    have := getElem?_lt_length' _ _ _ hb
    exact ih hpl hpn (hp.next hm hb hex) (by show a.chain.length - (s.curIdx + 1) < _; omega)
  | case4 _ s b hb _ hex =>
    obtain ⟨j, _, hoff, _⟩ := hp.inBlock b hb
    exact .inl (planAdd_starts c hm b s maxB j hoff hex hpl hpn)
  | case5 _ s b hb _ hex _ s1 =>
    obtain ⟨j, _, hoff, _⟩ := hp.inBlock b hb
    exact .inl ((planAdd_starts c hm b s maxB j hoff hex hpl hpn).of_prefix
      (planLoop_prefix _ _ _ _ _ { s1 with curIdx := s.curIdx + 1, curOff := 0 }))
  | case6 _ s _ _ hcond => exact absurd (Or.inr (by rw [hpl]; rfl)) hcond

theorem parseRange_mono (c : Cfg) (maxB : Nat) (r : ARange) (fuel bo : Nat) (s : APState) :
    s.parsed ≤ (parseRange c maxB r fuel bo s).parsed := by
  fun_induction parseRange c maxB r fuel bo s with
  | case7 => rename_i ih; exact Nat.le_trans (Nat.le_of_succ_le (Nat.le_of_eq (APState.push_parsed ..).symm)) ih
  | _ => exact Nat.le_refl _

theorem parsePlan_mono (c : Cfg) (maxB : Nat) (plan : List ARange) (s : APState) :
    s.parsed ≤ (parsePlan c maxB plan s).parsed := by
  fun_induction parsePlan c maxB plan s with
  | case3 => rename_i ih; exact Nat.le_trans (parseRange_mono ..) ih
  | _ => exact Nat.le_refl _

/-- the parser takes the entry at its position if the range holds it whole and nothing has been taken
yet (`hfirst`): the first entry is exempt from the byte budget, because the over-budget stop (branch 6
of `parseRange`) asks for `!s.entries.isEmpty` -/
theorem parseRange_takes (c : Cfg) (hm : 0 < c.metaSz) (maxB : Nat) (r : ARange) (fuel bo : Nat) (s : APState) (e : Pay)
    (hfuel : 0 < fuel) (hcap : s.entries.length < c.cap) (hent : entryAt c r.es (r.start + bo) = some e)
    (hfit : bo + raw c e ≤ r.stop - r.start) (hfirst : s.entries = []) :
    s.parsed + 1 ≤ (parseRange c maxB r fuel bo s).parsed := by
  have hmeta := header_fits hfit
  have hpos := raw_pos c hm e
  -- the branches of `parseRange` are numbered at `parseRange_spec`
  fun_cases parseRange c maxB r fuel bo s with
  | case1 => exact absurd hfuel (Nat.lt_irrefl 0)
  | case2 => exact absurd hcap (Nat.not_lt.mpr ‹_›)
  | case3 | case8 => omega
  | case4 => cases ‹_ = none›.symm.trans hent
  | case5 => cases ‹_ = some _›.symm.trans hent; exact absurd hfit (Nat.not_le.mpr ‹_›)
  | case6 => have hover := ‹_ ∧ _›.2; rw [hfirst] at hover; exact (Bool.false_ne_true hover).elim
  | case7 => exact Nat.le_trans (Nat.le_of_eq (APState.push_parsed ..).symm) (parseRange_mono ..)

theorem parsePlan_progress (c : Cfg) (hm : 0 < c.metaSz) (hcap : 0 < c.cap) (maxB : Nat) (plan : List ARange)
    (hf : Starts c plan) : 1 ≤ (parsePlan c maxB plan {}).parsed := by
  obtain ⟨r, rest, e, rfl, hent, hstop⟩ := hf
  rw [parsePlan, if_neg fun h => h.elim nofun fun h => absurd hcap (Nat.not_lt.mpr h)]
  exact Nat.le_trans
    (parseRange_takes c hm maxB r _ 0 {} e (Nat.succ_pos _) hcap hent (by omega) rfl)
    (parsePlan_mono c maxB rest _)

variable {c : Cfg} {n : Nat} {a : ATopic} {k : Nat}

theorem tailPlan_starts (hm : 0 < c.metaSz) {g : Nat} (ht : TailDen c a g) (hg : g < (log a).length) :
    Starts c (tailPlan c a) := by
  unfold tailPlan
  unfold TailDen at ht
  cases hw : a.writer with
  | none => rw [hw] at ht; simp [log, tailEs, hw, ht] at hg
  | some w =>
    rw [hw] at ht
    obtain ⟨j, _, ho, rfl⟩ := ht
    have hlt := bytes_take_lt c hm w.es j (by simpa [log, tailEs, hw] using hg)
    obtain ⟨_, hent, hnext⟩ := entryAt_boundary_lt c hm w.es j _ rfl hlt
    simp only [ho, show bytes c (w.es.take j) < w.used c from hlt, if_true]
    exact ⟨_, [], _, rfl, hent, hnext ▸ bytes_take_le c w.es (j + 1)⟩

theorem statefulPlan_starts (c : Cfg) (hm : 0 < c.metaSz) (n : Nat) (a : ATopic) (k : Nat) (h : TInv c n a k)
    (maxB : Nat) (hk : k < (log a).length) : Starts c (statefulPlan c a maxB) := by
  rcases Nat.lt_or_ge a.curIdx a.chain.length with hlt | hge
  · have hu := h.sealedNotTail hlt
    rw [statefulPlan_eq]
    rcases planLoop_starts c hm a maxB (a.chain.length + 1) ⟨a.curIdx, a.curOff, 0, 0, []⟩ k rfl rfl (h.posDen hu)
      (Nat.lt_succ_of_le (Nat.sub_le _ _)) with hf | ⟨hnil, hend, hkc⟩
    · exact hf.of_prefix (List.prefix_append _ _)
    · simp only [hnil, List.nil_append, if_pos hend]
      exact tailPlan_starts hm (hkc ▸ .unread hu) hk
  · have hidx := Nat.le_antisymm h.idx_le hge
    rw [statefulPlan_at_end c maxB hidx]
    exact tailPlan_starts hm (h.tailDen hidx) hk

theorem batchRead_progress (c : Cfg) (hm : 0 < c.metaSz) (hcap : 0 < c.cap) (n : Nat) (a : ATopic) (k : Nat)
    (h : TInv c n a k) (maxB : Nat) (cp : Bool) (hk : k < (log a).length) :
    1 ≤ (batchRead c a maxB cp).2.length := by
  have hf := statefulPlan_starts c hm n a k h maxB hk
  have hp := parsePlan_progress c hm hcap maxB _ hf
  have hps := parsePlan_spec c hm a k maxB (statefulPlan c a maxB) k {} (statefulPlan_good c hm n a k h maxB)
    (psinv_init c a k h.k_le) rfl rfl
  obtain ⟨r, rest, _, hplan, _⟩ := hf
  unfold batchRead
  simp only [hplan, List.isEmpty_cons, Bool.false_eq_true, if_false]
  rw [← hplan, List.length_reverse, hps.len]
  exact hp

end WalrusVerif.AEng
