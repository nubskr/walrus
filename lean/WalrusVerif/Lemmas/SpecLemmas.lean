import WalrusVerif.Lemmas.SpecStep
/-! Consequences of `accepts` in terms of counting functions over histories. -/
namespace WalrusVerif.AEng
open WalrusVerif WalrusVerif.Eng

/-- entries successfully appended to `t` in a history -/
def appendedCount (t : Topic) : List (AOp × Out) → Nat
  | [] => 0
  | (.append t' _, .ok) :: r => (if t' = t then 1 else 0) + appendedCount t r
  | (.batch t' ps, .ok) :: r => (if t' = t then ps.length else 0) + appendedCount t r
  | _ :: r => appendedCount t r

/-- entries returned to `t`'s consumer by consuming reads in a history -/
def consumedCount (t : Topic) : List (AOp × Out) → Nat
  | [] => 0
  | (.next t' true, .entry (some _)) :: r => (if t' = t then 1 else 0) + consumedCount t r
  | (.bread t' _ true none, .entries es) :: r => (if t' = t then es.length else 0) + consumedCount t r
  | _ :: r => consumedCount t r

/- `Spec.after` updates one topic by `upd`; read at any topic `t`, in the form in which the two counts add up: -/

theorem length_upd_append (f : Topic → List Pay) (t' t : Topic) (ps : List Pay) :
    (upd f t' (f t' ++ ps) t).length = (f t).length + if t' = t then ps.length else 0 := by
  unfold upd
  by_cases e : t = t'
  · subst e; simp
  · simp [e, Ne.symm e]

theorem upd_add (f : Topic → Nat) (t' t : Topic) (m : Nat) : upd f t' (f t' + m) t = f t + if t' = t then m else 0 := by
  unfold upd
  by_cases e : t = t'
  · subst e; simp
  · simp [e, Ne.symm e]

/-- one accepted step moves the length of `t`'s log by what `appendedCount` counts for it and the
consumed index by what `consumedCount` counts (stated with the rest of the history `r` added on both
sides, which is the form the induction uses) -/
theorem after_count (σ : Spec) (t : Topic) (op : AOp) (out : Out) (r : List (AOp × Out)) (h : σ.ok op out) :
    ((σ.after op out).log t).length + appendedCount t r = (σ.log t).length + appendedCount t ((op, out) :: r) ∧
      (σ.after op out).k t + consumedCount t r = σ.k t + consumedCount t ((op, out) :: r) := by
  revert h
  -- the cases are numbered at `accepts_cons`
  fun_cases Spec.ok σ op out <;> intro h
  case case9 => exact h.elim
  case case1 t' p | case3 t' ps =>
    exact ⟨by simp only [Spec.after, appendedCount, length_upd_append, List.length_singleton, Nat.add_assoc], rfl⟩
  case case5 t' cp e =>
    cases cp <;> cases e <;> exact ⟨rfl, by simp [Spec.after, consumedCount, upd_add, Nat.add_assoc]⟩
  case case6 t' _ cp es =>
    cases cp <;> exact ⟨rfl, by simp [Spec.after, consumedCount, upd_add, Nat.add_assoc]⟩
  all_goals exact ⟨rfl, by simp [Spec.after, consumedCount]⟩

theorem accepts_count (t : Topic) (o : Out) (h : List (AOp × Out)) (σ : Spec)
    (ha : accepts σ (h ++ [(.count t, o)])) :
    o = .num (((σ.log t).length + appendedCount t h) - (σ.k t + consumedCount t h)) := by
  induction h generalizing σ with
  | nil =>
    have := ((accepts_cons _ _ _ _).1 ha).1
    cases o <;> first | exact this.elim | exact congrArg Out.num this
  | cons x rest ih =>
    obtain ⟨hok, ha⟩ := (accepts_cons _ _ _ _).1 ha
    obtain ⟨h1, h2⟩ := after_count σ t x.1 x.2 rest hok
    rw [ih _ ha, h1, h2]

end WalrusVerif.AEng
