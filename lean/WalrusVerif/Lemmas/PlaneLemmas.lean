import WalrusVerif.Model.Plane
import WalrusVerif.Lemmas.AMapLemmas
/-! What one step of a task does in the data-plane model (C19, C22, C23).  `stepTask_eff` sorts every step into one of four
kinds of effect (`Eff`).  Each of `CoreStep`, `LogStep`, `QStep`, `TStep`, `FStep` says what one invariant has to know
about a step, and is read off `Eff` (`stepTask_logStep` in PlaneLog); `stepTask_tstep` and `stepTask_fstep` also need what
their invariant (`AckInv`, `FlightInv`) says of the stepping task before the step: `Eff` says how the task moves, only the
invariant what it held.  `FlightInv` stands here because `stepTask_fstep` assumes it; the other invariants are in
PlaneInv and PlaneLog. -/
namespace WalrusVerif.Plane
open WalrusVerif

theorem node_setNode (w : World) (e : Nat) (s : NodeSt) (n : Nat) :
    (w.setNode e s).node n = if e = n then s else w.node n := by
  unfold World.setNode World.node
  rw [AMap.get?_insert]
  split <;> rfl

theorem node_setNode_self (w : World) (e : Nat) (s : NodeSt) : (w.setNode e s).node e = s := by
  rw [node_setNode, if_pos rfl]

theorem nodes_setNode {P : NodeSt → Nat → Prop} {w : World} {e : Nat} {s : NodeSt} (h : ∀ m, P (w.node m) m) (hs : P s e)
    (m : Nat) : P ((w.setNode e s).node m) m := by
  rw [node_setNode]; split
  · next he => subst he; exact hs
  · exact h m

theorem setNode_same {α : Type} (f : NodeSt → α) {w : World} {e : Nat} {s : NodeSt} (h : f s = f (w.node e)) (m : Nat) :
    f ((w.setNode e s).node m) = f (w.node m) :=
  nodes_setNode (P := fun s m => f s = f (w.node m)) (fun _ => rfl) h m

theorem queues_setNode {w : World} {e : Nat} {s : NodeSt} (f : AMap Key Queue → AMap Key Queue)
    (hs : s.queues = f (w.node e).queues) (m : Nat) :
    ((w.setNode e s).node m).queues = if e = m then f (w.node m).queues else (w.node m).queues := by
  rw [node_setNode]; split
  · next he => subst he; exact hs
  · rfl

theorem finish_node (w : World) (tid : Nat) (r : Res) (n : Nat) : (finish w tid r).1.node n = w.node n := rfl

theorem finish_writes (w : World) (tid : Nat) (r : Res) : (finish w tid r).1.writes = w.writes := rfl

theorem pop_some {q q' : Queue} {x : Payload} (h : q.pop = (some x, q')) :
    q.entries[q.consumed]? = some x ∧ q' = { q with consumed := q.consumed + 1 } := by
  unfold Queue.pop at h
  split at h
  · next y hy => cases h; exact ⟨hy, rfl⟩
  · cases h

/-- the part of a node's state the lease discipline is about -/
def core (s : NodeSt) : Meta.ClusterState × Nat × List Key × Nat := (s.md, s.applied, s.leases, s.leaseApplied)

/-- what `LeaseInv` (`NodeOk`), `MdInv` and, of the tasks that do not step, `FlightInv` (`flightOk_coreStep`) have to
know about node `n` across a step: its `core` stays, or its leases are refreshed -/
def CoreStep (s s' : NodeSt) (n : Nat) : Prop := core s' = core s ∨ core s' = core (updateLeases s n)

theorem CoreStep.fields {s s' : NodeSt} {n : Nat} (h : CoreStep s s' n) :
    s'.md = s.md ∧ s'.applied = s.applied ∧
      (s'.leases = s.leases ∧ s'.leaseApplied = s.leaseApplied ∨
        s'.leases = ownedKeys s.md n ∧ s'.leaseApplied = s.applied) := by
  rcases h with h | h <;> simp only [core, updateLeases, Prod.mk.injEq] at h
  · exact ⟨h.1, h.2.1, .inl h.2.2⟩
  · exact ⟨h.1, h.2.1, .inr h.2.2⟩

/-- what `MdInv` has to know about the command log: it only grows -/
def LogStep (w w' : World) : Prop := ∃ ext, w'.log = w.log ++ ext

theorem logStep_refl (w : World) : LogStep w w := ⟨[], by simp⟩
theorem logStep_of_eq (w w' : World) (h : w'.log = w.log) : LogStep w w' := ⟨[], by simp [h]⟩
theorem logStep_trans (a b c : World) (h1 : LogStep a b) (h2 : LogStep b c) : LogStep a c := by
  obtain ⟨e1, h1⟩ := h1
  obtain ⟨e2, h2⟩ := h2
  exact ⟨e1 ++ e2, by rw [h2, h1, List.append_assoc]⟩

/-- the write event a task at `locked` produces -/
def writeEvOf (w : World) (c : PutCtx) : WriteEv :=
  let s := w.node c.e
  ⟨c.e, c.key, c.payload, ownsOpen s.md c.e c.key, decide (s.leaseApplied = s.applied) && s.leases.contains c.key⟩

def qOf (w : World) (e : Nat) (k : Key) : Queue := ((w.node e).queues.get? k).getD {}

/-- the payload a PUT task has already written -/
def holds : Task → Option Payload
  | .putWritten c => some c.payload
  | .putRecorded c => some c.payload
  | .putCounted c _ => some c.payload
  | .putAwait _ x => some x
  | _ => none

/-- the node and key of a PUT task that is between its lease refresh and its write, and whether it has passed the check -/
def flightOn : Task → Option (Nat × Key × Bool)
  | .putRefreshed c => some (c.e, c.key, false)
  | .putChecked c => some (c.e, c.key, true)
  | .putLocked c => some (c.e, c.key, true)
  | _ => none

def freshNode (s : NodeSt) : Prop := s.leaseApplied = s.applied

/-- every append in flight runs on a node whose lease set is current, and once checked its key is in that set -/
def FlightInv (w : World) : Prop :=
  ∀ tid t, w.tasks.get? tid = some t → ∀ e k chk, flightOn t = some (e, k, chk) →
    freshNode (w.node e) ∧ (chk = true → k ∈ (w.node e).leases)

/-- what `FlightInv w` says of each task of `w` (by definition: proofs pass from one to the other silently) -/
def FlightOk (w : World) (t : Task) : Prop :=
  ∀ e k chk, flightOn t = some (e, k, chk) → freshNode (w.node e) ∧ (chk = true → k ∈ (w.node e).leases)

theorem flightOk_none {w : World} {t : Task} (h : flightOn t = none) : FlightOk w t :=
  fun _ _ _ hf => by rw [h] at hf; cases hf

theorem FlightOk.intro {w : World} {t : Task} {e : Nat} {k : Key} {chk : Bool} (hf : flightOn t = some (e, k, chk))
    (h1 : freshNode (w.node e)) (h2 : chk = true → k ∈ (w.node e).leases) : FlightOk w t := by
  intro e' k' chk' h; rw [hf] at h; cases h; exact ⟨h1, h2⟩

theorem flightOk_setNode {w : World} {t : Task} {e : Nat} {k : Key} {chk : Bool} {s : NodeSt}
    (hf : flightOn t = some (e, k, chk)) (h1 : freshNode s) (h2 : chk = true → k ∈ s.leases) : FlightOk (w.setNode e s) t :=
  .intro hf (by rw [node_setNode_self]; exact h1) (by rw [node_setNode_self]; exact h2)

/-- node `n` keeps its queues, and its `core` up to a lease refresh: only offsets, cursors and locks move freely -/
def NodeMove (s s' : NodeSt) (n : Nat) : Prop := s'.queues = s.queues ∧ CoreStep s s' n

theorem nodeMove_refl (s : NodeSt) (n : Nat) : NodeMove s s n := ⟨rfl, .inl rfl⟩

/-- `W`: a world on the way from `w` to the result of the step -/
theorem NodeMove.setNode {w W : World} (hn : ∀ m, NodeMove (w.node m) (W.node m) m) {e : Nat} {s : NodeSt}
    (h : NodeMove (w.node e) s e) (m : Nat) : NodeMove (w.node m) ((W.setNode e s).node m) m :=
  nodes_setNode (P := fun s m => NodeMove (w.node m) s m) hn h m

/-- the stepping task stays where it is, or moves from `t` to a point `t'` at which it holds no payload it did not hold
and its flight condition still stands -/
def TaskMove (w w' : World) (tid : Nat) : Prop :=
  w'.tasks = w.tasks ∨ ∃ t t', w.tasks.get? tid = some t ∧ w'.tasks = w.tasks.insert tid t' ∧
    (∀ x, holds t' = some x → holds t = some x) ∧ (FlightOk w t → FlightOk w' t')

theorem TaskMove.landed {w w' : World} {tid : Nat} {t : Task} (hc : w.tasks.get? tid = some t) (t' : Task)
    (ht : w'.tasks = w.tasks.insert tid t') (hh : holds t' = none) (hf : flightOn t' = none) : TaskMove w w' tid :=
  .inr ⟨t, t', hc, ht, fun x hx => (by rw [hh] at hx; cases hx), fun _ => flightOk_none hf⟩

inductive Eff (w w' : World) (tid : Nat) : Prop where
  /-- nothing an invariant reads changes, except that leases may be refreshed, the log may grow and the task may move -/
  | move (hn : ∀ m, NodeMove (w.node m) (w'.node m) m) (hl : LogStep w w')
      (hw : w'.writes = w.writes) (hd : w'.delivered = w.delivered) (ha : w'.acked = w.acked)
      (ht : TaskMove w w' tid)
  /-- the engine write of the PUT at `locked` -/
  | write (c : PutCtx) (hc : w.tasks.get? tid = some (.putLocked c)) (ht : w'.tasks = w.tasks.insert tid (.putWritten c))
      (hn : ∀ m, core (w'.node m) = core (w.node m)) (hl : w'.log = w.log)
      (hw : w'.writes = w.writes ++ [writeEvOf w c]) (hd : w'.delivered = w.delivered) (ha : w'.acked = w.acked)
      (hq : ∀ e, (w'.node e).queues =
        if c.e = e then (w.node e).queues.insert c.key { (qOf w c.e c.key) with entries := (qOf w c.e c.key).entries ++ [c.payload] }
        else (w.node e).queues)
  /-- the acknowledgement of a PUT that holds `x` -/
  | ack (x : Payload) (h : w' = { w with tasks := w.tasks.insert tid .finished, acked := w.acked ++ [x] })
      (t : Task) (hc : w.tasks.get? tid = some t) (hx : holds t = some x)
  /-- a GET pops `x` from the queue of (`l`, `k`) -/
  | deliver (l : Nat) (k : Key) (x : Payload) (hx : (qOf w l k).entries[(qOf w l k).consumed]? = some x)
      (ht : w'.tasks = w.tasks.insert tid .finished)
      (hn : ∀ m, core (w'.node m) = core (w.node m)) (hl : w'.log = w.log)
      (hw : w'.writes = w.writes) (hd : w'.delivered = w.delivered ++ [(l, k, x)]) (ha : w'.acked = w.acked)
      (hq : ∀ e, (w'.node e).queues =
        if l = e then (w.node e).queues.insert k { (qOf w l k) with consumed := (qOf w l k).consumed + 1 }
        else (w.node e).queues)

theorem Eff.stay {w : World} {tid : Nat} : Eff w w tid :=
  .move (fun _ => nodeMove_refl _ _) (logStep_refl w) rfl rfl rfl (.inl rfl)

/-- `ns`: the node table `getLoop` starts from (in `getStart`, `w`'s with the cursor lock taken) -/
theorem getLoop_eff {w : World} {tid : Nat} {t : Task} (hc : w.tasks.get? tid = some t) (ns : AMap Nat NodeSt)
    (hn : ∀ m, NodeMove (w.node m) (({ w with nodes := ns } : World).node m) m) (n : Nat) (topic : Name) (seg del : Nat) :
    Eff w (getLoop { w with nodes := ns } tid n topic seg del).1 tid := by
  fun_cases getLoop { w with nodes := ns } tid n topic seg del
  · exact .move (NodeMove.setNode hn (hn n)) (logStep_refl w) rfl rfl rfl (.landed hc _ rfl rfl rfl)
  · exact .move (NodeMove.setNode hn (hn n)) (logStep_refl w) rfl rfl rfl (.landed hc _ rfl rfl rfl)
  · exact .move hn (logStep_refl w) rfl rfl rfl (.landed hc _ rfl rfl rfl)

theorem monLoop_eff {w : World} {tid : Nat} {t : Task} (hc : w.tasks.get? tid = some t) (n : Nat) (l : List (Name × Nat)) :
    Eff w (monLoop w tid n l).1 tid := by
  fun_induction monLoop w tid n l with
  | case1 => exact .move (fun _ => nodeMove_refl _ _) (logStep_refl w) rfl rfl rfl (.landed hc _ rfl rfl rfl)
  | case2 => assumption
  | case3 =>
    cases ‹propose .. = _›
    exact .move (fun _ => nodeMove_refl _ _) ⟨[_], rfl⟩ rfl rfl rfl (.landed hc _ rfl rfl rfl)

theorem stepTask_eff (w : World) (tid : Nat) : Eff w (stepTask w tid).1 tid := by
  have same : ∀ m, NodeMove (w.node m) (w.node m) m := fun _ => nodeMove_refl _ _
  -- the cases are the leaves of `stepTask` from top to bottom: 1 no task, 2 finished, 3-5 putStart, 6-8 putRefreshed,
  -- 9-10 putChecked, 11 putLocked, 12 putWritten, 13 putRecorded, 14-15 putCounted, 16-17 putAwait, 18-19 getStart,
  -- 20-23 getPlanned, 24 monStart, 25 monTick, 26-27 monAwait
  fun_cases stepTask w tid with
  -- no such task, a finished one, or one that waits (for a key lock, the cursor lock, an apply)
  | case1 | case2 | case9 | case17 | case18 | case27 => exact .stay
  -- putStart ends with an error; monStart
  | case3 | case4 | case24 => exact .move same (logStep_refl w) rfl rfl rfl (.landed ‹_› _ rfl rfl rfl)
  -- putStart: the executing node refreshes its leases
  | case5 _ _ _ hc =>
    exact .move (NodeMove.setNode same ⟨rfl, .inr rfl⟩) (logStep_refl w) rfl rfl rfl
      (.inr ⟨_, _, hc, rfl, nofun, fun _ => flightOk_setNode rfl rfl nofun⟩)
  -- putRefreshed: the lease check, on the set as it is or refreshed
  | case6 _ hc =>
    exact .move same (logStep_refl w) rfl rfl rfl
      (.inr ⟨_, _, hc, rfl, nofun, fun h => .intro rfl (h _ _ _ rfl).1 fun _ => List.contains_iff_mem.mp ‹_›⟩)
  | case7 _ hc =>
    exact .move (NodeMove.setNode same ⟨rfl, .inr rfl⟩) (logStep_refl w) rfl rfl rfl
      (.inr ⟨_, _, hc, rfl, nofun, fun _ => flightOk_setNode rfl rfl fun _ => List.contains_iff_mem.mp ‹_›⟩)
  | case8 =>
    exact .move (NodeMove.setNode same ⟨rfl, .inr rfl⟩) (logStep_refl w) rfl rfl rfl (.landed ‹_› _ rfl rfl rfl)
  -- putChecked takes the key lock
  | case10 _ hc =>
    exact .move (NodeMove.setNode same ⟨rfl, .inl rfl⟩) (logStep_refl w) rfl rfl rfl
      (.inr ⟨_, _, hc, rfl, nofun, fun h => flightOk_setNode rfl (h _ _ _ rfl).1 (h _ _ _ rfl).2⟩)
  -- putLocked
  | case11 c hc => exact .write c hc rfl (setNode_same core rfl) rfl rfl rfl rfl (queues_setNode (·.insert _ _) rfl)
  -- putWritten, putRecorded, putCounted at the threshold: the task keeps its payload
  | case12 _ hc =>
    exact .move (NodeMove.setNode same ⟨rfl, .inl rfl⟩) (logStep_refl w) rfl rfl rfl
      (.inr ⟨_, _, hc, rfl, fun _ h => h, fun _ => flightOk_none rfl⟩)
  | case13 _ hc =>
    exact .move same (logStep_refl w) rfl rfl rfl (.inr ⟨_, _, hc, rfl, fun _ h => h, fun _ => flightOk_none rfl⟩)
  | case15 _ _ hc =>
    cases ‹propose .. = _›
    exact .move same ⟨[_], rfl⟩ rfl rfl rfl (.inr ⟨_, _, hc, rfl, fun _ h => h, fun _ => flightOk_none rfl⟩)
  -- the acknowledgements: putCounted below the threshold, putAwait
  | case14 _ _ hc | case16 _ _ hc => cases ‹finish .. = _›; exact .ack _ rfl _ hc rfl
  -- getStart takes the cursor lock
  | case19 =>
    refine getLoop_eff ‹_› _ ?_ _ _ _ _
    exact NodeMove.setNode same ⟨rfl, .inl rfl⟩
  -- getPlanned: an error or EMPTY (the cursor is stored), a delivery, or on to the next segment
  | case20 | case23 =>
    exact .move (NodeMove.setNode same ⟨rfl, .inl rfl⟩) (logStep_refl w) rfl rfl rfl (.landed ‹_› _ rfl rfl rfl)
  | case21 =>
    cases ‹finish .. = _›
    obtain ⟨hx, rfl⟩ := pop_some ‹_›
    exact .deliver _ _ _ hx rfl (fun m => (setNode_same core (by rfl) m).trans (setNode_same core (by rfl) m))
      rfl rfl rfl rfl fun e => (setNode_same (·.queues) (by rfl) e).trans (queues_setNode (·.insert _ _) (by rfl) e)
  | case22 => exact getLoop_eff ‹_› w.nodes same _ _ _ _
  -- monTick, monAwait
  | case25 | case26 => exact monLoop_eff ‹_› _ _

theorem stepTask_core (w : World) (tid m : Nat) : CoreStep (w.node m) ((stepTask w tid).1.node m) m := by
  cases stepTask_eff w tid with
  | move hn => exact (hn m).2
  | write _ _ _ hn | deliver _ _ _ _ _ hn => exact .inl (hn m)
  | ack _ h => rw [h]; exact .inl rfl

theorem stepTask_writes (w : World) (tid : Nat) :
    (stepTask w tid).1.writes = w.writes ∨
    ∃ c, w.tasks.get? tid = some (.putLocked c) ∧ (stepTask w tid).1.writes = w.writes ++ [writeEvOf w c] := by
  cases stepTask_eff w tid with
  | move | deliver => exact .inl ‹_›
  | write c hc => exact .inr ⟨c, hc, ‹_›⟩
  | ack _ h => rw [h]; exact .inl rfl

/-- what `QInv` has to know about a step -/
inductive QStep (w w' : World) : Prop where
  | same (hq : ∀ e, (w'.node e).queues = (w.node e).queues) (hw : w'.writes = w.writes) (hd : w'.delivered = w.delivered)
  | write (c : PutCtx) (hw : w'.writes = w.writes ++ [writeEvOf w c]) (hd : w'.delivered = w.delivered)
      (hq : ∀ e, (w'.node e).queues =
        if c.e = e then (w.node e).queues.insert c.key { (qOf w c.e c.key) with entries := (qOf w c.e c.key).entries ++ [c.payload] }
        else (w.node e).queues)
  | deliver (l : Nat) (k : Key) (x : Payload) (hx : (qOf w l k).entries[(qOf w l k).consumed]? = some x)
      (hw : w'.writes = w.writes) (hd : w'.delivered = w.delivered ++ [(l, k, x)])
      (hq : ∀ e, (w'.node e).queues =
        if l = e then (w.node e).queues.insert k { (qOf w l k) with consumed := (qOf w l k).consumed + 1 }
        else (w.node e).queues)

theorem stepTask_qstep (w : World) (tid : Nat) : QStep w (stepTask w tid).1 := by
  cases stepTask_eff w tid with
  | move hn => exact .same (fun e => (hn e).1) ‹_› ‹_›
  | write c => exact .write c ‹_› ‹_› ‹_›
  | ack _ h => rw [h]; exact .same (fun _ => rfl) rfl rfl
  | deliver l k x hx => exact .deliver l k x hx ‹_› ‹_› ‹_›

def Stored (w : World) (x : Payload) : Prop := ∃ ev ∈ w.writes, ev.payload = x

theorem stored_mono {w w' : World} (h : w.writes <+: w'.writes) (x : Payload) : Stored w x → Stored w' x :=
  fun ⟨ev, hev, hx⟩ => ⟨ev, h.subset hev, hx⟩

/-- what `AckInv` has to know about a step of task `tid` -/
structure TStep (w w' : World) (tid : Nat) : Prop where
  /-- nothing leaves `writes` -/
  mono : ∀ x, Stored w x → Stored w' x
  /-- only task `tid` moves, and what it holds afterwards is stored -/
  tasks : w'.tasks = w.tasks ∨ ∃ t', w'.tasks = w.tasks.insert tid t' ∧
    (∀ x, holds t' = some x → Stored w' x)
  /-- a payload is acknowledged only by the task that held it -/
  acked : w'.acked = w.acked ∨ ∃ x, w'.acked = w.acked ++ [x] ∧ ∃ t, w.tasks.get? tid = some t ∧ holds t = some x

/-- `hinv` is the task half of `AckInv`: a task that moves on holds at most what it held (`TaskMove`), and that this
is in `writes` only the invariant says -/
theorem stepTask_tstep (w : World) (tid : Nat)
    (hinv : ∀ t, w.tasks.get? tid = some t → ∀ x, holds t = some x → Stored w x) : TStep w (stepTask w tid).1 tid := by
  have mono : ∀ x, Stored w x → Stored (stepTask w tid).1 x := stored_mono <|
    (stepTask_writes w tid).elim (fun hw => hw ▸ List.prefix_rfl) fun ⟨_, _, hw⟩ => ⟨_, hw.symm⟩
  cases stepTask_eff w tid with
  | move _ _ _ _ ha ht =>
    refine ⟨mono, ?_, .inl ha⟩
    rcases ht with ht | ⟨t, t', hc, ht, hh, _⟩
    · exact .inl ht
    · exact .inr ⟨t', ht, fun x hx => mono x (hinv t hc x (hh x hx))⟩
  | write c _ ht _ _ hw _ ha =>
    refine ⟨mono, .inr ⟨_, ht, fun x hx => ?_⟩, .inl ha⟩
    cases hx
    exact ⟨_, by rw [hw]; exact List.mem_append_right _ (List.mem_singleton.mpr rfl), rfl⟩
  | ack x h t hc hx =>
    rw [h] at mono ⊢
    exact ⟨mono, .inr ⟨_, rfl, nofun⟩, .inr ⟨x, rfl, t, hc, hx⟩⟩
  | deliver _ _ _ _ ht _ _ _ _ ha => exact ⟨mono, .inr ⟨_, ht, nofun⟩, .inl ha⟩

/-- what `FlightInv` has to know about a step of task `tid` -/
inductive FStep (w w' : World) (tid : Nat) : Prop where
  | unchanged (h : w'.tasks = w.tasks)
  | landed (t' : Task) (h : w'.tasks = w.tasks.insert tid t') (hn : flightOn t' = none)
  | flying (t' : Task) (h : w'.tasks = w.tasks.insert tid t') (e : Nat) (k : Key) (chk : Bool)
      (hf : flightOn t' = some (e, k, chk)) (hfresh : freshNode (w'.node e)) (hmem : chk = true → k ∈ (w'.node e).leases)

theorem stepTask_fstep (w : World) (tid : Nat) (hF : FlightInv w) : FStep w (stepTask w tid).1 tid := by
  cases stepTask_eff w tid with
  | move =>
    rcases ‹TaskMove ..› with ht | ⟨t, t', hc, ht, _, hf⟩
    · exact .unchanged ht
    · cases h : flightOn t' with
      | none => exact .landed t' ht h
      | some p =>
        obtain ⟨e, k, chk⟩ := p
        have ok := hf (hF tid t hc) e k chk h
        exact .flying t' ht e k chk h ok.1 ok.2
  | write _ _ ht | deliver _ _ _ _ ht => exact .landed _ ht rfl
  | ack _ h => rw [h]; exact .landed _ rfl rfl

end WalrusVerif.Plane
