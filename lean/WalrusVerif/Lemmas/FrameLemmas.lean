import WalrusVerif.Model.Frame
import WalrusVerif.Lemmas.LittleEndian
/-! The specification C24 is stated in: the client's stream as a list of frames `Fr`, sent as `Fr.encode`, answered as
`respondAll`.  `Fr.WF`: the length fits the `u32` prefix and the client sends as many body bytes as it announces, also
for an oversized frame (the server drains it); an oversized frame cut short is outside `C24_sync`.  `serve_frames`:
`serve` on such a stream is `respondAll`. -/
namespace WalrusVerif.Frame
open WalrusVerif

def enc32 (n : Nat) : Bytes :=
  [UInt8.ofNat (n % 256), UInt8.ofNat (n / 256 % 256), UInt8.ofNat (n / 65536 % 256), UInt8.ofNat (n / 16777216 % 256)]

theorem enc32_eq (n : Nat) : enc32 n = Meta.encLE 4 n := by
  simp [enc32, Meta.encLE, Nat.div_div_eq_div_mul]

theorem le32_enc32 (n : Nat) (h : n < 2 ^ 32) : le32 (enc32 n) = n := by
  rw [enc32_eq]
  -- `le32` of a four-byte list unfolds to `leNat` of it
  exact (Meta.leNat_encLE 4 n).trans (Nat.mod_eq_of_lt h)

structure Fr where
  n : Nat
  body : Bytes

def Fr.WF (f : Fr) : Prop := f.body.length = f.n ∧ f.n < 2 ^ 32

def Fr.encode (f : Fr) : Bytes := enc32 f.n ++ f.body

/-- the specification: one response per frame, in order, each computed from that frame alone
(and the backend state left by the previous ones) -/
def respondAll (dec : Bytes → Option Str) : Backend → List Fr → List Str
  | _, [] => []
  | b, f :: r => let (b', x) := respond dec b f.n f.body; x :: respondAll dec b' r

theorem serve_nil (dec : Bytes → Option Str) (fuel : Nat) (b : Backend) : serve dec fuel [] b = [] := by
  cases fuel <;> rfl

theorem serve_encode (dec : Bytes → Option Str) (f : Fr) (hf : f.WF) (rest : Bytes) (b : Backend) (fuel : Nat) :
    serve dec (fuel + 1) (f.encode ++ rest) b =
      (respond dec b f.n f.body).2 :: serve dec fuel rest (respond dec b f.n f.body).1 := by
  obtain ⟨hl, hn⟩ := hf
  have h4 : (enc32 f.n).length = 4 := rfl
  rw [serve, Fr.encode, List.append_assoc, List.take_left' h4, List.drop_left' h4, le32_enc32 _ hn,
    if_neg (by simp [h4])]
  simp only [List.take_left' hl, List.drop_left' hl, List.length_append, hl]
  exact if_neg (by omega)

theorem serve_frames (dec : Bytes → Option Str) (frames : List Fr) (tail : Bytes) (b : Backend) (fuel : Nat)
    (hwf : ∀ f ∈ frames, f.WF) (hfuel : frames.length ≤ fuel) :
    serve dec fuel ((frames.flatMap Fr.encode) ++ tail) b =
      respondAll dec b frames ++ serve dec (fuel - frames.length) tail (frames.foldl (fun b f => (respond dec b f.n f.body).1) b) := by
  induction frames generalizing b fuel with
  | nil => rfl
  | cons f r ih =>
    obtain ⟨fuel, rfl⟩ : ∃ k, fuel = k + 1 := ⟨fuel - 1, by simp at hfuel; omega⟩
    rw [List.flatMap_cons, List.append_assoc, serve_encode dec f (hwf f (by simp)),
      ih _ fuel (fun g hg => hwf g (by simp [hg])) (by simpa using hfuel)]
    simp [respondAll]

theorem splitSpace_append (a s : Str) (h : ∀ c ∈ a, c ≠ ' ') :
    splitSpace (a ++ s) = (a ++ (splitSpace s).1, (splitSpace s).2) := by
  induction a with
  | nil => rfl
  | cons c t ih => simp [splitSpace, h c (by simp), ih fun d hd => h d (by simp [hd])]

theorem splitSpace_nospace (a : Str) (h : ∀ c ∈ a, c ≠ ' ') : splitSpace a = (a, none) := by
  simpa [splitSpace] using splitSpace_append a [] h

theorem splitSpace_at (a r : Str) (h : ∀ c ∈ a, c ≠ ' ') : splitSpace (a ++ ' ' :: r) = (a, some r) := by
  simpa [splitSpace] using splitSpace_append a (' ' :: r) h

theorem handleCommand_put (b : Backend) (t p : Str) (ht : ∀ c ∈ t, c ≠ ' ') :
    handleCommand b (kPUT ++ ' ' :: (t ++ ' ' :: p)) = (b.put t p, lit "OK") := by
  have n : kPUT ≠ kREGISTER := by decide
  simp only [handleCommand, splitSpace_at kPUT _ (by decide), splitSpace_at t p ht, n, if_false, if_true]

theorem handleCommand_get (b b' : Backend) (t p : Str) (ht : ∀ c ∈ t, c ≠ ' ') (h : b.get t = (b', some p)) :
    handleCommand b (kGET ++ ' ' :: t) = (b', okPrefix ++ p) := by
  have n1 : kGET ≠ kREGISTER := by decide
  have n2 : kGET ≠ kPUT := by decide
  simp only [handleCommand, splitSpace_at kGET _ (by decide), splitSpace_nospace t ht, n1, n2, if_false, if_true, h]

theorem trimEnd_id (s : Str) (h : ∀ c, s.getLast? = some c → isWs c = false) : trimEnd s = s := by
  unfold trimEnd
  cases hs : s.reverse with
  | nil => simp [List.reverse_eq_nil_iff.mp hs]
  | cons c r =>
    have : s.getLast? = some c := by
      rw [← List.head?_reverse, hs]; rfl
    have hw := h c this
    rw [List.dropWhile_cons_of_neg (by simp [hw]), ← hs, List.reverse_reverse]

end WalrusVerif.Frame
