import WalrusVerif.Model.AEng
/-! Layout arithmetic of the entry-level model: byte offsets of entry boundaries. -/
namespace WalrusVerif.AEng
open WalrusVerif WalrusVerif.Eng

variable (c : Cfg)

@[simp] theorem bytes_nil : bytes c [] = 0 := rfl
@[simp] theorem bytes_cons (e : Pay) (r : List Pay) : bytes c (e :: r) = raw c e + bytes c r := by
  simp [bytes]
theorem bytes_append (a b : List Pay) : bytes c (a ++ b) = bytes c a + bytes c b := by
  simp [bytes, List.sum_append]

theorem raw_pos (hm : 0 < c.metaSz) (e : Pay) : 0 < raw c e := by unfold raw; omega

theorem bytes_take_le (es : List Pay) (j : Nat) : bytes c (es.take j) ≤ bytes c es := by
  conv => rhs; rw [← List.take_append_drop j es, bytes_append]
  exact Nat.le_add_right _ _

theorem entryAt_boundary (hm : 0 < c.metaSz) (es : List Pay) (j : Nat) :
    entryAt c es (bytes c (es.take j)) = es[j]? := by
  induction es generalizing j with
  | nil => simp [entryAt]
  | cons e r ih =>
    cases j with
    | zero => simp [entryAt]
    | succ j =>
      have hp := raw_pos c hm e
      rw [List.take_succ_cons, bytes_cons, entryAt, if_neg (by omega), if_neg (by omega), Nat.add_sub_cancel_left,
        List.getElem?_cons_succ]
      exact ih j

theorem bytes_take_succ (es : List Pay) (j : Nat) (e : Pay) (h : es[j]? = some e) :
    bytes c (es.take (j + 1)) = bytes c (es.take j) + raw c e := by
  rw [List.take_add_one, h, bytes_append]; simp

theorem bytes_take_lt (hm : 0 < c.metaSz) (es : List Pay) (j : Nat) (h : j < es.length) :
    bytes c (es.take j) < bytes c es := by
  have he : es[j]? = some es[j] := List.getElem?_eq_getElem h
  have h1 := bytes_take_succ c es j es[j] he
  have h2 := bytes_take_le c es (j + 1)
  have := raw_pos c hm es[j]
  omega

theorem boundary_end (hm : 0 < c.metaSz) (es : List Pay) (j : Nat) (hj : j ≤ es.length)
    (h : bytes c es ≤ bytes c (es.take j)) : j = es.length := by
  rcases Nat.lt_or_ge j es.length with h1 | h1
  · have := bytes_take_lt c hm es j h1; omega
  · omega

/-- `hoff` is an equation so that callers pass theirs as it stands; the bound `hjl` comes first because the rest speaks
of `es[j]` -/
theorem entryAt_boundary_lt (hm : 0 < c.metaSz) (es : List Pay) (j off : Nat) (hoff : off = bytes c (es.take j))
    (h : off < bytes c es) :
    ∃ hjl : j < es.length, entryAt c es off = some es[j] ∧ off + raw c es[j] = bytes c (es.take (j + 1)) := by
  subst hoff
  have hjl : j < es.length := Nat.lt_of_not_le fun hge => Nat.lt_irrefl _ (List.take_of_length_le hge ▸ h)
  have he : es[j]? = some es[j] := List.getElem?_eq_getElem hjl
  exact ⟨hjl, by rw [entryAt_boundary c hm, he], (bytes_take_succ c es j _ he).symm⟩

theorem getElem?_lt_length' {α : Type} (l : List α) (i : Nat) (x : α) (h : l[i]? = some x) : i < l.length :=
  (List.getElem?_eq_some_iff.mp h).1

end WalrusVerif.AEng
