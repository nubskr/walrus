import WalrusVerif.Spec.QueueR
/-! `accepts` and `acceptsR` are folds of one step of the specification: what the output of an
operation must satisfy (`Spec.ok`) and the abstract state after it (`Spec.after`). -/
namespace WalrusVerif.AEng
open WalrusVerif WalrusVerif.Eng

def Spec.ok (σ : Spec) : AOp → Out → Prop
  | .append _ _, .ok | .append _ _, .err _ | .batch _ _, .ok | .batch _ _, .err _ => True
  | .next t _, .entry r => r = (σ.log t)[σ.k t]?
  | .bread t _ _ none, .entries es =>
    ∃ m, es = ((σ.pending t).take m).map (·, 0) ∧ σ.k t + m ≤ (σ.log t).length ∧ (σ.pending t ≠ [] → 0 < m)
  | .bread _ _ _ (some _), .entries _ => True
  | .count t, .num n => n = (σ.log t).length - σ.k t
  | _, _ => False

def Spec.after (σ : Spec) : AOp → Out → Spec
  | .append t p, .ok => ⟨upd σ.log t (σ.log t ++ [p]), σ.k⟩
  | .batch t ps, .ok => ⟨upd σ.log t (σ.log t ++ ps), σ.k⟩
  | .next t cp, .entry r => if cp = true ∧ r.isSome then ⟨σ.log, upd σ.k t (σ.k t + 1)⟩ else σ
  | .bread t _ cp none, .entries es => if cp = true then ⟨σ.log, upd σ.k t (σ.k t + es.length)⟩ else σ
  | _, _ => σ

theorem upd_self {β : Type} (f : Topic → β) (t : Topic) : upd f t (f t) = f := by
  funext t'; unfold upd; split
  · rename_i e; rw [e]
  · rfl

/- The cases of `Spec.ok`, here and below: 1–4 `append` ok, `append` err, `batch` ok, `batch` err; 5 `next`;
6 cursor `bread`; 7 offset `bread`; 8 `count`; 9 any other pair (`False`). -/
theorem accepts_cons (σ : Spec) (op : AOp) (out : Out) (rest : List (AOp × Out)) :
    accepts σ ((op, out) :: rest) ↔ σ.ok op out ∧ accepts (σ.after op out) rest := by
  fun_cases Spec.ok σ op out
  case case5 | case6 | case8 => exact Iff.rfl
  case case9 => simp [accepts, *]
  all_goals exact ⟨fun h => ⟨trivial, h⟩, And.right⟩

theorem acceptsR_cons_op (σ : Spec) (op : AOp) (out : Out) (rest : List (ROp × Out)) (hok : σ.ok op out)
    (h : acceptsR (σ.after op out) rest) : acceptsR σ ((.op op, out) :: rest) := by
  revert hok
  fun_cases Spec.ok σ op out <;> intro hok
  case case5 | case6 | case8 => exact ⟨hok, h⟩
  case case9 => exact hok.elim
  all_goals exact h

theorem acceptsR_cons_restart (σ : Spec) (rest : List (ROp × Out)) (h : acceptsR σ rest) :
    acceptsR σ ((.restart, .ok) :: rest) := h

end WalrusVerif.AEng
