import WalrusVerif.Model.Sanitize
/-! What C14 needs of `sanitize_namespace` and of lexical path resolution: the sanitized key is one proper path
component (`sanitize_ok`), and pushing such a component extends the resolved root by it (`resolve_append_single`). -/
namespace WalrusVerif.Sanitize
open WalrusVerif

def slash : Char := '/'
def nul : Char := Char.ofNat 0

/-- `mapChar` yields a kept character or the replacement, so nothing that is neither -/
theorem mapChar_ne (c x : Char) (hk : keep x = false) (hr : x ≠ Consts.SANITIZE_REPLACEMENT) : mapChar c ≠ x := by
  unfold mapChar
  split
  · rintro rfl; simp_all
  · exact hr.symm

theorem hexDigit_ok : ∀ n, n < 16 → hexDigit n ≠ '/' ∧ hexDigit n ≠ nul := by decide

theorem hexAux_ok (fuel n : Nat) (acc : List Char)
    (hacc : ∀ c ∈ acc, c ≠ '/' ∧ c ≠ nul) : ∀ c ∈ hexAux fuel n acc, c ≠ '/' ∧ c ≠ nul := by
  fun_induction hexAux fuel n acc with
  | case1 => exact hacc
  | case2 fuel n acc h => exact List.forall_mem_cons.mpr ⟨hexDigit_ok n h, hacc⟩
  | case3 fuel n acc h ih => exact ih (List.forall_mem_cons.mpr ⟨hexDigit_ok _ (Nat.mod_lt _ (by decide)), hacc⟩)

theorem hex_ok (n : Nat) : ∀ c ∈ hex n, c ≠ '/' ∧ c ≠ nul :=
  hexAux_ok 64 n [] (by simp)

theorem fallback_ok (key : List Char) :
    fallback key ≠ [] ∧ (∀ c ∈ fallback key, c ≠ '/' ∧ c ≠ nul) ∧
      fallback key ≠ ['.'] ∧ fallback key ≠ ['.', '.'] := by
  have hp : Consts.SANITIZE_FALLBACK_PREFIX = ['n', 's', '_'] := by decide
  unfold fallback; rw [hp]
  exact ⟨by simp, List.forall_mem_append.mpr ⟨by decide, hex_ok _⟩, by simp, by simp⟩

theorem sanitize_ok (key : List Char) :
    sanitize key ≠ [] ∧ (∀ c ∈ sanitize key, c ≠ '/' ∧ c ≠ nul) ∧
      sanitize key ≠ ['.'] ∧ sanitize key ≠ ['.', '.'] := by
  unfold sanitize
  simp only
  split
  · exact fallback_ok key
  · rename_i h
    simp only [Bool.or_eq_true, not_or, Bool.not_eq_true] at h
    obtain ⟨h1, h2⟩ := h
    have hex : Consts.SANITIZE_EXCLUDED = [['.'], ['.', '.']] := by decide
    rw [hex] at h2
    refine ⟨?_, ?_, ?_, ?_⟩
    · intro e; rw [e] at h1; simp [trimsToEmpty] at h1
    · intro c hc
      obtain ⟨a, _, rfl⟩ := List.mem_map.mp hc
      exact ⟨mapChar_ne a _ (by decide) (by decide), mapChar_ne a _ (by decide) (by decide)⟩
    · intro e; rw [e] at h2; simp at h2
    · intro e; rw [e] at h2; simp at h2

theorem splitSlash_noslash (s : List Char) (h : ∀ c ∈ s, c ≠ '/') : splitSlash s = [s] := by
  induction s with
  | nil => rfl
  | cons c cs ih =>
    have hc : c ≠ '/' := h c (by simp)
    have := ih (fun d hd => h d (by simp [hd]))
    simp [splitSlash, hc, this]

theorem resolve_append_single (root : List (List Char)) (comp : List Char)
    (h0 : comp ≠ []) (h1 : comp ≠ ['.']) (h2 : comp ≠ ['.', '.']) :
    resolve (root ++ [comp]) = resolve root ++ [comp] := by
  simp [resolve, List.foldl_append, resolveStep, h0, h1, h2]

end WalrusVerif.Sanitize
