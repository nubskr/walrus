import WalrusVerif.Model.Fnv
/-!
Each FNV-1a step is injective in the 64-bit state for a fixed input byte, and injective in
the byte for a fixed state (xor with a byte, then multiplication by an odd constant, which is
invertible modulo 2^64).
-/
namespace WalrusVerif.Fnv
open WalrusVerif

/-- multiplicative inverse of the FNV prime modulo 2^64 -/
def primeInv : BitVec 64 := 0xce965057aff6957b#64

theorem prime_mul_inv : prime * primeInv = 1#64 := by decide

theorem mul_prime_cancel (a b : BitVec 64) (h : a * prime = b * prime) : a = b := by
  have h2 : a * prime * primeInv = b * prime * primeInv := by rw [h]
  simpa [BitVec.mul_assoc, prime_mul_inv] using h2

theorem step_inj_state (h₁ h₂ : BitVec 64) (b : UInt8) (e : step h₁ b = step h₂ b) : h₁ = h₂ :=
  (BitVec.xor_left_inj _).mp (mul_prime_cancel _ _ e)

theorem ofNat_toNat_inj (b₁ b₂ : UInt8) (e : BitVec.ofNat 64 b₁.toNat = BitVec.ofNat 64 b₂.toNat) : b₁ = b₂ := by
  have h1 : b₁.toNat < 2 ^ 64 := Nat.lt_of_lt_of_le b₁.toNat_lt (by decide)
  have h2 : b₂.toNat < 2 ^ 64 := Nat.lt_of_lt_of_le b₂.toNat_lt (by decide)
  have := congrArg BitVec.toNat e
  simp [BitVec.toNat_ofNat, Nat.mod_eq_of_lt h1, Nat.mod_eq_of_lt h2] at this
  exact UInt8.toNat_inj.mp this

theorem step_inj_byte (h : BitVec 64) (b₁ b₂ : UInt8) (e : step h b₁ = step h b₂) : b₁ = b₂ :=
  ofNat_toNat_inj _ _ ((BitVec.xor_right_inj _).mp (mul_prime_cancel _ _ e))

theorem foldFrom_inj (data : List UInt8) (h₁ h₂ : BitVec 64) (e : foldFrom h₁ data = foldFrom h₂ data) :
    h₁ = h₂ := by
  induction data generalizing h₁ h₂ with
  | nil => simpa [foldFrom] using e
  | cons b r ih =>
    simp only [foldFrom, List.foldl_cons] at e
    exact step_inj_state _ _ b (ih _ _ e)

end WalrusVerif.Fnv
