import WalrusVerif.Lemmas.AEngStep
/-! `step` and `runFrom` give equal outputs on states with the same `nextId` that answer every topic lookup alike
(`AState.Equiv`: extensionality of the topic map, nothing about cursor encodings), so an operation that leaves the state
as it was up to `AState.Equiv` changes no later output (`later_outputs`). -/
namespace WalrusVerif.AEng
open WalrusVerif WalrusVerif.Eng

def AState.Equiv (s s' : AState) : Prop := s.nextId = s'.nextId ∧ ∀ t, s.topic t = s'.topic t

theorem equiv_refl (s : AState) : AState.Equiv s s := ⟨rfl, fun _ => rfl⟩

theorem equiv_insert (s s' : AState) (h : AState.Equiv s s') (n : Nat) (t : Topic) (a : ATopic) :
    AState.Equiv { nextId := n, topics := s.topics.insert t a } { nextId := n, topics := s'.topics.insert t a } := by
  refine ⟨rfl, fun t' => ?_⟩
  rw [topic_insert, topic_insert]
  unfold upd
  split
  · rfl
  · exact h.2 t'

/-- `step` only looks at the state through `topic` and `nextId` -/
theorem step_equiv (c : Cfg) (s s' : AState) (h : AState.Equiv s s') (op : AOp) :
    (step c s op).2 = (step c s' op).2 ∧ AState.Equiv (step c s op).1 (step c s' op).1 := by
  have hn := h.1
  cases op with
  | append t p | batch t ps =>
    simp only [step, hn, h.2 t]
    split <;> exact ⟨rfl, equiv_insert s s' h _ t _⟩
  | next t cp =>
    simp only [step, h.2 t, AState.put]
    exact ⟨trivial, hn ▸ equiv_insert s s' h s.nextId t _⟩
  | bread t m cp start =>
    cases start with
    | none =>
      simp only [step, h.2 t, AState.put]
      exact ⟨trivial, hn ▸ equiv_insert s s' h s.nextId t _⟩
    | some r => simp only [step, h.2 t]; exact ⟨trivial, h⟩
  | count t => simp only [step, h.2 t]; exact ⟨trivial, h⟩

theorem runFrom_equiv (c : Cfg) (ops : List AOp) : ∀ (s s' : AState), AState.Equiv s s' →
    runFrom c s ops = runFrom c s' ops := by
  induction ops with
  | nil => intro _ _ _; rfl
  | cons op rest ih =>
    intro s s' h
    have := step_equiv c s s' h op
    simp only [runFrom]
    rw [this.1, ih _ _ this.2]

theorem put_same_equiv (s : AState) (t : Topic) : AState.Equiv (s.put t (s.topic t)) s :=
  ⟨rfl, fun t' => by unfold AState.put; rw [topic_insert]; exact congrFun (upd_self s.topic t) t'⟩

theorem later_outputs (c : Cfg) (before after : List AOp) (x : AOp) (hx : ∀ s, AState.Equiv (step c s x).1 s) :
    (run c (before ++ x :: after)).drop (before.length + 1) = (run c (before ++ after)).drop before.length := by
  unfold run
  rw [runFrom_append, runFrom_append, ← runFrom_length c {} before, List.drop_length_add_append, List.drop_left]
  exact runFrom_equiv c after _ _ (hx _)

end WalrusVerif.AEng
