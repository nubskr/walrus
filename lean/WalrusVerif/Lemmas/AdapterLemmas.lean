import WalrusVerif.Model.Adapter
/-! The adapter model (Model/Adapter.lean): cutting a stream into calls changes nothing (`applyBatches_eq`); a call that
succeeds has handed the application exactly the commands of the stream (`applyAll_ok`), one that fails a prefix of them
(`applyAll_cmds`); so two nodes fed prefixes of one stream hold prefix-related commands (`cmds_comparable`). -/
namespace WalrusVerif.Adapter
open WalrusVerif

theorem cmdsOf_append (a b : List REntry) : cmdsOf (a ++ b) = cmdsOf a ++ cmdsOf b := by
  simp [cmdsOf, List.filterMap_append]

theorem cmdsOf_cons (e : REntry) (r : List REntry) : cmdsOf (e :: r) = cmdsOf [e] ++ cmdsOf r :=
  cmdsOf_append [e] r

theorem cmdsOf_prefix {a b : List REntry} (h : a <+: b) : cmdsOf a <+: cmdsOf b := h.filterMap _

/-- The last conjunct (here and in `applyAll_ok`): with a failure armed, success means that no command was handed over.
`C19_local_failure_stops_the_node` reads it backwards. -/
theorem applyOne_ok (s : SmSt) (e : REntry) : (applyOne s e).2.2 = true →
    (applyOne s e).1.lastApplied = some (e.index, e.term) ∧ (applyOne s e).1.cmds = s.cmds ++ cmdsOf [e] ∧
    kvReplay s.kv (cmdsOf [e]) = some (applyOne s e).1.kv ∧ (applyOne s e).1.failNext = s.failNext ∧
    (s.failNext = true → cmdsOf [e] = []) := by
  fun_cases applyOne s e <;> simp_all +zetaDelta [cmdsOf, kvReplay]

theorem kvReplay_append (kv kv' : AMap Nat Nat) (a b : List Cmd) (h : kvReplay kv a = some kv') :
    kvReplay kv (a ++ b) = kvReplay kv' b := by
  induction a generalizing kv with
  | nil => cases h; rfl
  | cons c r ih =>
    simp only [kvReplay, List.cons_append] at h ⊢
    split at h
    · exact ih _ h
    · cases h

/- In the inductions over `applyAll`, `case2` is an entry that is accepted: `h1 : applyOne s e = (s', o, true)`,
`h2 : applyAll s' r = (s'', os, ok)`; `case3` one that is rejected: `h1 : applyOne s e = (s', o, false)`. -/

theorem applyAll_ok (s : SmSt) (es : List REntry) : (applyAll s es).2.2 = true →
    (applyAll s es).1.cmds = s.cmds ++ cmdsOf es ∧ kvReplay s.kv (cmdsOf es) = some (applyAll s es).1.kv ∧
    (∀ e, es.getLast? = some e → (applyAll s es).1.lastApplied = some (e.index, e.term)) ∧
    (s.failNext = true → cmdsOf es = []) := by
  fun_induction applyAll s es with
  | case1 s => intro _; exact ⟨by simp [cmdsOf], rfl, by simp, fun _ => rfl⟩
  | case2 s e r _ _ h1 _ _ _ h2 ih =>
    intro hok
    have h := applyOne_ok s e (by rw [h1])
    rw [h1] at h
    obtain ⟨hl, hc, hk, hf, hn⟩ := h
    rw [h2] at ih
    obtain ⟨ic, ik, il, inn⟩ := ih hok
    rw [cmdsOf_cons]
    refine ⟨by rw [ic, hc, List.append_assoc], by rw [kvReplay_append _ _ _ _ hk, ik], ?_, ?_⟩
    · intro x hx
      cases r with
      | nil => cases hx; simpa [applyAll] using (congrArg (·.1.lastApplied) h2).symm.trans hl
      | cons y t => exact il x (by simpa using hx)
    · intro hfn; rw [hn hfn, inn (hf ▸ hfn)]; rfl
  | case3 => intro h; cases h

/-- state and success of a call (the answers dropped) -/
abbrev res (x : SmSt × List (Nat × Resp) × Bool) : SmSt × Bool := (x.1, x.2.2)

theorem applyAll_append (s : SmSt) (a b : List REntry) :
    res (applyAll s (a ++ b)) = if (applyAll s a).2.2 then res (applyAll (applyAll s a).1 b) else res (applyAll s a) := by
  fun_induction applyAll s a with
  | case1 s => rfl
  | case2 _ _ _ _ _ h1 _ _ _ h2 ih =>
    rw [h2] at ih
    rw [List.cons_append, applyAll, h1]; exact ih
  | case3 _ _ _ _ _ h1 => rw [List.cons_append, applyAll, h1]; rfl

theorem applyBatches_eq (s : SmSt) (bs : List (List REntry)) : applyBatches s bs = res (applyAll s bs.flatten) := by
  fun_induction applyBatches s bs with
  | case1 s => rfl
  -- `h : applyAll s b = (s', _, true)`, in `case3` `false`
  | case2 _ _ _ _ _ h ih => rw [List.flatten_cons, applyAll_append, h, ih]; rfl
  | case3 _ _ _ _ _ h => rw [List.flatten_cons, applyAll_append, h]; rfl

theorem applyOne_cmds (s : SmSt) (e : REntry) : ∃ d, (applyOne s e).1.cmds = s.cmds ++ d ∧ d <+: cmdsOf [e] := by
  fun_cases applyOne s e
  -- the armed failure: nothing is handed over
  case case3 => exact ⟨[], by simp +zetaDelta, List.nil_prefix⟩
  all_goals exact ⟨cmdsOf [e], by simp_all +zetaDelta [cmdsOf], List.prefix_refl _⟩

theorem applyAll_cmds (s : SmSt) (es : List REntry) :
    ∃ done, (applyAll s es).1.cmds = s.cmds ++ done ∧ done <+: cmdsOf es := by
  fun_induction applyAll s es with
  | case1 s => exact ⟨[], by simp, List.nil_prefix⟩
  | case2 s e r _ _ h1 _ _ _ h2 ih =>
    have h := (applyOne_ok s e (by rw [h1])).2.1
    rw [h1] at h
    rw [h2] at ih
    obtain ⟨d, hd, hp⟩ := ih
    exact ⟨cmdsOf [e] ++ d, by rw [hd, h, List.append_assoc], cmdsOf_cons e r ▸ (List.prefix_append_right_inj _).mpr hp⟩
  | case3 s e r _ _ h1 =>
    obtain ⟨d, hd, hp⟩ := applyOne_cmds s e
    rw [h1] at hd
    exact ⟨d, hd, cmdsOf_cons e r ▸ hp.trans (List.prefix_append _ _)⟩

/-- Whether or not every call succeeded: both sides are `s.cmds`, then a prefix of `cmdsOf G`. -/
theorem cmds_comparable (s : SmSt) (G : List REntry) (k₁ k₂ : Nat) (b₁ b₂ : List (List REntry))
    (h₁ : b₁.flatten = G.take k₁) (h₂ : b₂.flatten = G.take k₂) :
    (applyBatches s b₁).1.cmds <+: (applyBatches s b₂).1.cmds ∨
    (applyBatches s b₂).1.cmds <+: (applyBatches s b₁).1.cmds := by
  obtain ⟨d₁, e₁, p₁⟩ := applyAll_cmds s (G.take k₁)
  obtain ⟨d₂, e₂, p₂⟩ := applyAll_cmds s (G.take k₂)
  rw [applyBatches_eq, applyBatches_eq, h₁, h₂, e₁, e₂, List.prefix_append_right_inj, List.prefix_append_right_inj]
  exact List.prefix_or_prefix_of_prefix (p₁.trans (cmdsOf_prefix (List.take_prefix k₁ G)))
    (p₂.trans (cmdsOf_prefix (List.take_prefix k₂ G)))

theorem applyOne_strip (s : SmSt) (e : REntry) :
    applyOne s { e with responder := false } = ((applyOne s e).1, none, (applyOne s e).2.2) := by
  fun_cases applyOne s e <;> simp_all +zetaDelta [applyOne]

end WalrusVerif.Adapter
